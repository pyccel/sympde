-- root of the library: every model, lemma and property module
import SympdeModel.Model.Sexp
import SympdeModel.Model.Exterior
import SympdeModel.Model.Pattern
import SympdeModel.Model.BC
import SympdeModel.Model.Atoms
import SympdeModel.Model.Subst
import SympdeModel.Model.RingEq
import SympdeModel.Model.Apply
import SympdeModel.Model.Linear
import SympdeModel.Lemmas.Subst
import SympdeModel.Lemmas.RingEq
import SympdeModel.Lemmas.Apply
import SympdeModel.Props.C10
import SympdeModel.Sem.Instances
import SympdeModel.Lemmas.Linear
import SympdeModel.Lemmas.LinearSound
import SympdeModel.Props.C08
import SympdeModel.Lemmas.AtomsName
import SympdeModel.Lemmas.AtomsMax
import SympdeModel.Props.C17
import SympdeModel.Lemmas.BC
import SympdeModel.Props.C18
import SympdeModel.Lemmas.PatternStr
import SympdeModel.Lemmas.PatternLayout
import SympdeModel.Lemmas.PatternItem
import SympdeModel.Lemmas.PatternProps
import SympdeModel.Lemmas.PatternEscape
import SympdeModel.Props.C20
import SympdeModel.Lemmas.Exterior
import SympdeModel.Props.C19
import SympdeModel.Model.Expr
import SympdeModel.Lemmas.ExprInd
import SympdeModel.Model.PDeriv
import SympdeModel.Sem.DRing
import SympdeModel.Props.C05
import SympdeModel.Model.Topology
import SympdeModel.Model.Union
import SympdeModel.Lemmas.Union
import SympdeModel.Props.C14
import SympdeModel.Lemmas.Topology
import SympdeModel.Lemmas.TopologySub
import SympdeModel.Lemmas.TopologyCorners
import SympdeModel.Props.C13
import SympdeModel.Model.Export
import SympdeModel.Lemmas.Export
import SympdeModel.Props.C15
import SympdeModel.Model.Memo
import SympdeModel.Lemmas.Memo
import SympdeModel.Gen.Identity
import SympdeModel.Props.C12
import SympdeModel.Gen.Leaf
import SympdeModel.Model.Lower
import SympdeModel.Sem.DenG
import SympdeModel.Lemmas.LowerInd
import SympdeModel.Props.C01
import SympdeModel.Model.Calc
import SympdeModel.Props.C02
import SympdeModel.Lemmas.Calc2
import SympdeModel.Props.C02b
import SympdeModel.Sem.DenI
import SympdeModel.Lemmas.Calc3
import SympdeModel.Props.C02c
import SympdeModel.Model.Norm
import SympdeModel.Props.C11
import SympdeModel.Model.Forms
import SympdeModel.Props.C06
import SympdeModel.Props.C07
import SympdeModel.Model.Frac
import SympdeModel.Model.Broadcast
import SympdeModel.Lemmas.Frac
import SympdeModel.Lemmas.Broadcast
import SympdeModel.Lemmas.Mappings
import SympdeModel.Gen.Mappings
import SympdeModel.Gen.MappingsThms
import SympdeModel.Props.C16
import SympdeModel.Model.Linearize
import SympdeModel.Props.C09
import SympdeModel.Model.Pullback
import SympdeModel.Props.C03
import SympdeModel.Model.IntegralMap
import SympdeModel.Props.C04
import SympdeModel.Lemmas.LinearProduct
import SympdeModel.Lemmas.PullbackInst
import SympdeModel.Props.C03Inst
import SympdeModel.Lemmas.IntegralMap
import SympdeModel.Lemmas.NormLower
import SympdeModel.Model.MatSym
import SympdeModel.Lemmas.MatSym
import SympdeModel.Props.C02d
import SympdeModel.Lemmas.LinearSum

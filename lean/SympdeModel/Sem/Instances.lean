/-
  A concrete differential ring: polynomials in the six coordinates `x y z x1 x2 x3` over ℚ with
  the formal partial derivatives.  It shows that the hypotheses of every `DRing` theorem of the
  project can be met (non-vacuity), and it is the interpretation in which the violating
  integrands of C08 are refuted.

  Function symbols are interpreted by arbitrary polynomials (`sfv`, `vfv`), constants by rational
  numbers, coordinate symbols by the indeterminates; every elementary function symbol is
  interpreted by the square `a ↦ a²` (derivative `2a`: the chain rule holds), so that "a
  non-linear function of the argument" has a non-linear interpretation; `inv` and `rpow` are 0
  (their laws are implications / hold trivially).
-/
import Mathlib.Algebra.MvPolynomial.PDeriv
import Mathlib.Algebra.MvPolynomial.CommRing
import SympdeModel.Sem.DRing
open MvPolynomial
namespace Sympde

abbrev PolyK := MvPolynomial Coord ℚ

/-- formal partial derivatives commute: by induction on the polynomial, `∂_k (∂_l X_n)` being the
    derivative of a constant -/
theorem pderiv_pderiv_comm {R σ : Type} [CommSemiring R] [DecidableEq σ] (i j : σ) (p : MvPolynomial σ R) :
    pderiv i (pderiv j p) = pderiv j (pderiv i p) := by
  induction p using MvPolynomial.induction_on with
  | C a => simp only [pderiv_C, map_zero]
  | add p q hp hq => simp only [map_add, hp, hq]
  | mul_X p n ih =>
    have hc : ∀ k l : σ, pderiv k (Pi.single (M := fun _ => MvPolynomial σ R) l 1 n) = 0 := fun k l => by
      rw [Pi.single_apply]; split <;> simp only [pderiv_one, map_zero]
    simp only [Derivation.leibniz, smul_eq_mul, map_add, pderiv_X, ih, hc, mul_zero]
    ring

theorem pderiv_comm (i j : Coord) (p : PolyK) : pderiv i (pderiv j p) = pderiv j (pderiv i p) :=
  pderiv_pderiv_comm i j p

theorem Coord.ofName_name (c : Coord) : Coord.ofName c.name = some c := by cases c <;> rfl

theorem Coord.name_of_ofName {s : String} {c : Coord} (h : Coord.ofName s = some c) : s = c.name := by
  unfold Coord.ofName at h
  split at h <;> first | (injection h with h; subst h; rfl) | cases h

theorem Coord.name_inj {a b : Coord} (h : a.name = b.name) : a = b := by
  have := Coord.ofName_name a
  rw [h, Coord.ofName_name] at this
  injection this with this
  exact this.symm

/-- the coordinate symbol of a name (0 for any other symbol) -/
noncomputable def polySym (s : String) : PolyK :=
  match Coord.ofName s with
  | some c => X c
  | none => 0

noncomputable def polyDRing (sfv : String → PolyK) (vfv : String → Nat → PolyK) (cstv : String → ℚ) :
    DRing PolyK where
  D c := pderiv c
  D_add c a b := map_add _ a b
  D_mul c a b := by
    simp only [Derivation.leibniz, smul_eq_mul]; ring
  D_comm c c' a := pderiv_comm c c' a
  D_rat c r := by
    show pderiv c (C r) = 0
    simp
  sf := sfv
  vf := vfv
  cst s := C (cstv s)
  D_cst c s := by simp
  sym := polySym
  D_sym c s := by
    unfold polySym
    cases h : Coord.ofName s with
    | none =>
      have : s ≠ c.name := by
        intro e; rw [e, Coord.ofName_name] at h; cases h
      simp [this]
    | some c' =>
      have hs := Coord.name_of_ofName h
      simp only [pderiv_X, Pi.single_apply]
      by_cases hc : c' = c
      · subst hc; simp [hs]
      · have : s ≠ c.name := by
          intro e; rw [hs] at e; exact hc (Coord.name_inj e)
        simp [hc, this]
  fn _ a := a * a
  fn' _ a := 2 * a
  D_fn c f a := by
    simp only [Derivation.leibniz, smul_eq_mul]; ring
  inv _ := 0
  rpow _ _ := 0
  D_rpow c b e := by simp
  rpow_pred b e _ := by simp

/-- evaluation of a polynomial at a point: a ring homomorphism, used to tell polynomials apart -/
noncomputable def evalAt (pt : Coord → ℚ) : PolyK →+* ℚ := MvPolynomial.eval pt

theorem ne_of_evalAt (pt : Coord → ℚ) (p q : PolyK) (h : evalAt pt p ≠ evalAt pt q) : p ≠ q :=
  fun e => h (by rw [e])

end Sympde

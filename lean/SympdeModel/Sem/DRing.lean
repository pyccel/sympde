/-
  Semantic structure (DESIGN.md 5.2): a commutative ℚ-algebra with commuting derivations, one
  per coordinate operator, and interpretations of the function symbols.  Smooth functions on
  an open set of ℝⁿ with their partial derivatives are an instance (Schwarz); so are polynomial
  rings with formal derivatives (Sem/Instances.lean).  Every theorem is proved for *every*
  such structure: these are hypotheses, not axioms.
-/
import Mathlib.Algebra.Algebra.Defs
import Mathlib.Algebra.Ring.Invertible
import Mathlib.Tactic.Ring
import Mathlib.Tactic.LinearCombination
import SympdeModel.Model.Expr

namespace Sympde

structure DRing (K : Type) [CommRing K] [Algebra ℚ K] where
  /-- the derivation attached to a coordinate operator dx, dy, dz, dx1, dx2, dx3 -/
  D : Coord → K → K
  D_add : ∀ c a b, D c (a + b) = D c a + D c b
  D_mul : ∀ c a b, D c (a * b) = a * D c b + D c a * b
  D_comm : ∀ c c' a, D c (D c' a) = D c' (D c a)
  D_rat : ∀ c (r : ℚ), D c (algebraMap ℚ K r) = 0
  /-- interpretation of scalar functions, vector function components, constants, symbols -/
  sf : String → K
  vf : String → Nat → K
  cst : String → K
  D_cst : ∀ c s, D c (cst s) = 0
  sym : String → K
  /-- a coordinate symbol has derivative 1 along its own operator and 0 along the others;
      any other plain symbol is a parameter (derivative 0) -/
  D_sym : ∀ c s, D c (sym s) = if s = c.name then 1 else 0
  /-- elementary functions and their derivatives (chain rule) -/
  fn : String → K → K
  fn' : String → K → K
  D_fn : ∀ c f a, D c (fn f a) = fn' f a * D c a
  /-- a candidate inverse (only used at points where `a * inv a = 1` is assumed) and real powers
      with the classical derivative `d(b^e) = (log b · de + e · db / b) · b^e` -/
  inv : K → K
  rpow : K → K → K
  D_rpow : ∀ c b e, D c (rpow b e) = (fn "log" b * D c e + e * D c b * inv b) * rpow b e
  rpow_pred : ∀ b e, b * inv b = 1 → rpow b (e + -1) = rpow b e * inv b

namespace DRing
variable {K : Type} [CommRing K] [Algebra ℚ K] (S : DRing K)

theorem D_zero (c : Coord) : S.D c 0 = 0 := by
  have := S.D_rat c 0
  simpa using this

theorem D_one (c : Coord) : S.D c 1 = 0 := by
  have := S.D_rat c 1
  simpa using this

theorem D_neg (c : Coord) (a : K) : S.D c (-a) = - S.D c a := by
  have h := S.D_add c a (-a)
  rw [add_neg_cancel, S.D_zero] at h
  linear_combination -h

theorem D_sub (c : Coord) (a b : K) : S.D c (a - b) = S.D c a - S.D c b := by
  rw [sub_eq_add_neg, S.D_add, S.D_neg]; ring

theorem D_pow (c : Coord) (a : K) (n : Nat) :
    S.D c (a ^ (n + 1)) = (n + 1 : K) * a ^ n * S.D c a := by
  induction n with
  | zero => simp
  | succ n ih =>
    rw [pow_succ, S.D_mul, ih]
    push_cast
    ring

theorem D_smul_rat (c : Coord) (r : ℚ) (a : K) :
    S.D c (algebraMap ℚ K r * a) = algebraMap ℚ K r * S.D c a := by
  rw [S.D_mul, S.D_rat]; ring

theorem D_inv_of_mul_eq_one (c : Coord) (a b : K) (h : a * b = 1) :
    S.D c b = - (b * b) * S.D c a := by
  have h1 : a * S.D c b + S.D c a * b = 0 := by rw [← S.D_mul, h, S.D_one]
  linear_combination b * h1 - S.D c b * h

/-- sum over the first `d` indices -/
def sumN {K : Type} [CommRing K] : Nat → (Nat → K) → K
  | 0, _ => 0
  | n + 1, f => sumN n f + f n

theorem sumN_add {K : Type} [CommRing K] (d : Nat) (f g : Nat → K) :
    sumN d (fun i => f i + g i) = sumN d f + sumN d g := by
  induction d with
  | zero => simp [sumN]
  | succ n ih => simp only [sumN, ih]; ring

theorem sumN_mul_left {K : Type} [CommRing K] (d : Nat) (a : K) (f : Nat → K) :
    sumN d (fun i => a * f i) = a * sumN d f := by
  induction d with
  | zero => simp [sumN]
  | succ n ih => simp only [sumN, ih]; ring

theorem sumN_congr {K : Type} [CommRing K] (d : Nat) (f g : Nat → K) (h : ∀ i, i < d → f i = g i) :
    sumN d f = sumN d g := by
  induction d with
  | zero => simp [sumN]
  | succ n ih =>
    simp only [sumN]
    rw [ih (fun i hi => h i (Nat.lt_succ_of_lt hi)), h n (Nat.lt_succ_self n)]

theorem sumN_zero {K : Type} [CommRing K] (d : Nat) : sumN d (fun _ => (0 : K)) = 0 := by
  induction d with
  | zero => simp [sumN]
  | succ n ih => simp [sumN, ih]

theorem D_sumN (c : Coord) (d : Nat) (f : Nat → K) :
    S.D c (sumN d f) = sumN d (fun i => S.D c (f i)) := by
  induction d with
  | zero => simp [sumN, S.D_zero]
  | succ n ih => simp only [sumN, S.D_add, ih]

end DRing
end Sympde

/-
  C05 — coordinate partial-derivative operators are exact derivations.

  Semantics: an arbitrary `DRing K` — a commutative ℚ-algebra with commuting derivations
  `D c` (one per operator dx dy dz dx1 dx2 dx3), arbitrary interpretations of the function
  symbols, constants with zero derivative, coordinate symbols with `D c x_c' = δ`, elementary
  functions with the chain rule and real powers with the classical derivative.  Smooth
  functions with their partial derivatives are such a structure, so each theorem holds for
  every choice of smooth functions at every point.
-/
import SympdeModel.Lemmas.PDeriv
namespace Sympde
open E PD

variable {K : Type} [CommRing K] [Algebra ℚ K]

theorem dEvalListE_eq (d : Nat) (c : Coord) (as : List E) :
    dEvalListE d c as = as.map (dEval d c) := by
  induction as with
  | nil => simp [dEvalListE]
  | cons a as ih => simp [dEvalListE, ih]

theorem dEvalList_sound (S : DRing K) (d : Nat) (c : Coord) (as : List E)
    (ih : ∀ a ∈ as, ∀ r, dEval d c a = .ok r → ∀ i j, den S r i j = S.D c (den S a i j))
    (rs : List E) (h : dEvalList d c as = .ok rs) (i j : Nat) :
    denSum S rs i j = S.D c (denSum S as i j) ∧ rs.length = as.length ∧
    ∀ n, denNth S rs n = S.D c (denNth S as n) := by
  induction as generalizing rs with
  | nil =>
    simp only [dEvalList] at h
    injection h with h; subst h
    refine ⟨by simp [denSum, S.D_zero], rfl, ?_⟩
    intro n; simp [denNth, S.D_zero]
  | cons a as iha =>
    rw [dEvalList] at h
    obtain ⟨r, h1, h⟩ := bind_ok h
    obtain ⟨rs', h2, h⟩ := bind_ok h
    injection h with h; subst h
    have ha := ih a (by simp) r h1
    have := iha (fun x hx => ih x (by simp [hx])) rs' h2
    refine ⟨?_, by simp [this.2.1], ?_⟩
    · simp only [denSum, S.D_add, ha i j, this.1]
    · intro n
      cases n with
      | zero => simp [denNth, ha 0 0]
      | succ n => simp [denNth, this.2.2 n]

theorem filter_zip_map_fst {α β : Type} (p : α → Bool) (f : α → β) (as : List α) :
    ((as.zip (as.map f)).filter (fun q => p q.1)).map (·.1) = as.filter p := by
  induction as with
  | nil => rfl
  | cons a as ih =>
    simp only [List.map, List.zip_cons_cons, List.filter]
    cases hp : p a <;> simp [ih]

/-- the function-free branch: a number has derivative zero, anything else is handed to
    `sympy.diff` -/
theorem den_free_branch (S : DRing K) (T : FnTable S) (c : Coord) (e : E) (hs : SuppS e = true)
    (hnd : NonDeg S e) (hf : hasT e = false) (i j : Nat) :
    den S (if isNumber e then zero else PD.sdiff c e) i j = S.D c (den S e i j) := by
  split
  · rename_i hn
    rw [den_zero, D_isNumber S c e hn hnd]
  · exact sdiff_sound S T c e (Elem_of_SuppS e hs hf) hnd i j

/-- the `Mul` branch on the non-coefficient factors -/
theorem dProd_sound (S : DRing K) (T : FnTable S) (c : Coord) (i j : Nat)
    (l : List (E × Except Err E))
    (hl : ∀ p ∈ l, SuppS p.1 = true ∧ NonDeg S p.1 ∧
      ∀ r, p.2 = .ok r → den S r i j = S.D c (den S p.1 i j))
    (v : E) (h : dProd c l = .ok v) :
    den S v i j = S.D c (denProd S (l.map (·.1)) i j) := by
  induction l generalizing v with
  | nil =>
    injection h with h
    rw [← h, den_zero]
    exact (S.D_one c).symm
  | cons p rest ih =>
    obtain ⟨a, da⟩ := p
    have hp := hl (a, da) (by simp)
    cases rest with
    | nil =>
      simp only [List.map, denProd, mul_one]
      exact hp.2.2 v h
    | cons q rest' =>
      have hrest : ∀ p ∈ q :: rest', SuppS p.1 = true ∧ NonDeg S p.1 ∧
          ∀ r, p.2 = .ok r → den S r i j = S.D c (den S p.1 i j) :=
        fun p hp' => hl p (by simp [hp'])
      simp only [dProd] at h
      obtain ⟨fa, hda, h⟩ := bind_ok h
      obtain ⟨fb, hfb, h⟩ := bind_ok h
      injection h with h
      -- `fb` is the derivative of the product of the remaining factors
      have h2 : den S fb i j = S.D c (denProd S ((q :: rest').map (·.1)) i j) := by
        cases rest' with
        | nil =>
          simp only [List.map, denProd, mul_one]
          exact (hrest q (by simp)).2.2 fb hfb
        | cons q2 rest'' =>
          simp only at hfb
          split at hfb
          · rename_i hnf
            injection hfb with hfb
            rw [← hfb]
            exact den_free_branch S T c (mul ((q :: q2 :: rest'').map (·.1)))
              (by
                rw [SuppS, SuppSList_iff, List.all_eq_true]
                intro x hx
                obtain ⟨p, hp', rfl⟩ := List.mem_map.mp hx
                exact (hrest p hp').1)
              (NonDegList_of_mem S _ (by
                intro x hx
                obtain ⟨p, hp', rfl⟩ := List.mem_map.mp hx
                exact (hrest p hp').2.1))
              (by simpa [hasT] using hnf) i j
          · exact ih hrest fb hfb
      have e1 : den S (add [mul [a, fb], mul [fa, mulOf ((q :: rest').map (·.1))]]) i j
          = den S a i j * den S fb i j
            + den S fa i j * denProd S ((q :: rest').map (·.1)) i j := by
        simp only [den, denSum, denProd, den_mulOf, mul_one, add_zero]
      rw [← h, e1, hp.2.2 fa hda, h2]
      exact (S.D_mul c _ _).symm

/-- **Exactness.**  Whenever a coordinate operator returns a value for a supported scalar
    expression, that value denotes the derivative of what the argument denotes — in every
    differential ring, i.e. for every choice of smooth functions at every point.  Covers
    constants (→ 0), coordinates, functions and vector components, derivative chains
    (canonical re-ordering of logical ones), sums (linearity), products of any number of
    factors with constant coefficients (Leibniz), integer powers and quotients, variable and
    real exponents, elementary functions of coordinate expressions (chain rule). -/
theorem dEval_sound (S : DRing K) (T : FnTable S) (d : Nat) (c : Coord) (e : E)
    (hs : SuppS e = true) (hnd : NonDeg S e) (r : E) (h : dEval d c e = .ok r) :
    ∀ i j, den S r i j = S.D c (den S e i j) := by
  intro i j
  induction e using E.induction generalizing r i j with
  | num p q =>
    injection h with h
    rw [← h]
    exact den_free_branch S T c (num p q) rfl trivial rfl i j
  | cst s =>
    injection h with h
    rw [← h]
    exact den_free_branch S T c (cst s) rfl trivial rfl i j
  | sym s =>
    injection h with h
    rw [← h]
    exact den_free_branch S T c (sym s) rfl trivial rfl i j
  | sf s k =>
    injection h with h
    rw [← h]
    rfl
  | idx b k _ =>
    simp only [dEval] at h
    injection h with h
    rw [← h]
    rfl
  | pd c' a _ =>
    simp only [dEval] at h
    split at h
    · exact reorderL_sound S c (pd c' a) r h i j
    · injection h with h
      rw [← h]
      rfl
  | add as ih =>
    simp only [dEval] at h
    split at h
    · rename_i hnf
      injection h with h
      rw [← h]
      exact den_free_branch S T c (add as) hs hnd (by simpa [hasT] using hnf) i j
    · rw [SuppS, SuppSList_iff, List.all_eq_true] at hs
      obtain ⟨rs, hrs, h⟩ := bind_ok h
      injection h with h
      rw [← h, den, den]
      exact (dEvalList_sound S d c as
        (fun a ha r hr i j => ih a ha (hs a ha) (NonDegList_mem S as hnd a ha) r hr i j)
        rs hrs i j).1
  | mul as ih =>
    simp only [dEval] at h
    split at h
    · rename_i hnf
      injection h with h
      rw [← h]
      exact den_free_branch S T c (mul as) hs hnd (by simpa [hasT] using hnf) i j
    · rw [SuppS, SuppSList_iff, List.all_eq_true] at hs
      rw [dEvalListE_eq] at h
      obtain ⟨v, hv, h⟩ := bind_ok h
      injection h with h
      have hv' := dProd_sound S T c i j _ (by
        intro p hp
        obtain ⟨hmem, hp2⟩ := mem_zip_map (dEval d c) as p (List.mem_filter.mp hp).1
        refine ⟨hs _ hmem, NonDegList_mem S as hnd _ hmem, fun r hr => ?_⟩
        rw [hp2] at hr
        exact ih p.1 hmem (hs _ hmem) (NonDegList_mem S as hnd _ hmem) r hr i j) v hv
      rw [filter_zip_map_fst (fun a => !isCoef a) (dEval d c) as] at hv'
      -- the coefficients are constants: only the other factors are differentiated
      rw [← h]
      simp only [den, denProd, den_mulOf, mul_one]
      rw [hv', denProd_filter S isCoef as i j, S.D_mul,
        D_denProd_coefs S c _ (fun a ha => (List.mem_filter.mp ha).2) i j, zero_mul, add_zero]
  | pow b e ihb ihe =>
    simp only [dEval] at h
    split at h
    · rename_i hnf
      injection h with h
      rw [← h]
      exact den_free_branch S T c (pow b e) hs hnd (by simpa [hasT] using hnf) i j
    · simp only [SuppS, Bool.and_eq_true] at hs
      obtain ⟨db, hdb, h⟩ := bind_ok h
      obtain ⟨de, hde, h⟩ := bind_ok h
      injection h with h
      rw [← h]
      apply powRule_sound S c b e db de i j (ihb hs.1 hnd.2.1 db hdb i j) (ihe hs.2 hnd.2.2 de hde i j)
      split
      · rename_i m hm
        exact NonDeg_pow S b e hnd i j _ hm m rfl
      · trivial
  | fn f a iha =>
    simp only [dEval] at h
    split at h
    · rename_i hnf
      have := den_free_branch S T c (fn f a) hs hnd (by simpa using hnf) i j
      split at h
      · rename_i hn
        injection h with h
        rwa [if_pos hn, h] at this
      · rename_i hn
        injection h with h
        rwa [if_neg hn, h] at this
    · cases h
  | _ => cases hs

/-- **Linearity over constants, Leibniz rule, vanishing on constants** are instances of
    `dEval_sound`; they are spelled out for the record. -/
theorem dEval_const (d : Nat) (c : Coord) (p : Int) (q : Nat) :
    dEval d c (num p q) = .ok zero ∧ ∀ s, dEval d c (cst s) = .ok zero :=
  ⟨rfl, fun _ => rfl⟩

theorem dEval_leibniz (S : DRing K) (T : FnTable S) (d : Nat) (c : Coord) (a b r : E)
    (ha : SuppS a = true) (hb : SuppS b = true) (hna : NonDeg S a) (hnb : NonDeg S b)
    (h : dEval d c (mul [a, b]) = .ok r) (i j : Nat) :
    den S r i j = den S a i j * S.D c (den S b i j) + S.D c (den S a i j) * den S b i j := by
  rw [dEval_sound S T d c (mul [a, b]) (by simp only [SuppS, SuppSList, ha, hb, Bool.and_self])
    ⟨hna, hnb, trivial⟩ r h i j]
  simp only [den, denProd, mul_one]
  exact S.D_mul c _ _

theorem isCoef_SuppS (k : E) (hk : isCoef k = true) : SuppS k = true := by
  cases k <;> first | rfl | cases hk

theorem isCoef_NonDeg (S : DRing K) (k : E) (hk : isCoef k = true) : NonDeg S k := by
  cases k <;> trivial

theorem dEval_linear (S : DRing K) (T : FnTable S) (d : Nat) (c : Coord) (k a b r : E)
    (hk : isCoef k = true) (ha : SuppS a = true) (hb : SuppS b = true)
    (hna : NonDeg S a) (hnb : NonDeg S b)
    (h : dEval d c (add [mul [k, a], b]) = .ok r) (i j : Nat) :
    den S r i j = den S k i j * S.D c (den S a i j) + S.D c (den S b i j) := by
  rw [dEval_sound S T d c (add [mul [k, a], b])
    (by simp only [SuppS, SuppSList, ha, hb, isCoef_SuppS k hk, Bool.and_self])
    ⟨⟨isCoef_NonDeg S k hk, hna, trivial⟩, hnb, trivial⟩ r h i j]
  simp only [den, denSum, denProd, mul_one, add_zero]
  rw [S.D_add, S.D_mul, D_isCoef S c k hk i j, zero_mul, add_zero]

/-- repeated derivatives taken in different orders denote the same quantity -/
theorem pd_order_irrelevant (S : DRing K) (c c' : Coord) (a : E) (i j : Nat) :
    den S (pd c (pd c' a)) i j = den S (pd c' (pd c a)) i j :=
  S.D_comm c c' _

/-- … and for logical operators they are even the *same term*: the result of applying an
    operator to a chain depends only on how many times each direction occurs in it -/
theorem reorder_canonical (c : Coord) (e e' : E) (hs : stripL e = stripL e')
    (hc : ∀ c', cnt c' (leadL e) = cnt c' (leadL e')) : reorderL c e = reorderL c e' := by
  rw [reorderL_eq, reorderL_eq]
  simp only [hc, hs]

theorem denNth_eq (S : DRing K) (l : List E) (n : Nat) (h : n < l.length) :
    denNth S l n = den S l[n] 0 0 := by
  induction l generalizing n with
  | nil => cases h
  | cons x l ih =>
    cases n with
    | zero => rfl
    | succ n => exact ih n (Nat.lt_of_succ_lt_succ h)

/-- a vector function is differentiated component by component (returned as a 1×d row) -/
theorem dEval_vf (S : DRing K) (d : Nat) (c : Coord) (s : String) (k : Kind) (j : Nat) (hj : j < d) :
    ∃ r, dEval d c (vf s k) = .ok r ∧ den S r 0 j = S.D c (den S (vf s k) j 0) := by
  refine ⟨_, rfl, ?_⟩
  have hlen : j < ((PD.range d).map (fun i => pd c (idx (vf s k) i))).length := by
    simpa [PD.range] using hj
  simp only [den, hj, Nat.zero_lt_one, and_self, if_true, Nat.zero_mul, Nat.zero_add]
  rw [denNth_eq S _ j hlen]
  simp [PD.range, den]

/-- a matrix is differentiated entry by entry -/
theorem dEval_mat (S : DRing K) (T : FnTable S) (d : Nat) (c : Coord) (rr cc : Nat) (es : List E)
    (hs : SuppSList es = true) (hnd : NonDegList S es) (r : E)
    (h : dEval d c (mat rr cc es) = .ok r) (i j : Nat) :
    den S r i j = S.D c (den S (mat rr cc es) i j) := by
  rw [dEval] at h
  obtain ⟨rs, hrs, h⟩ := bind_ok h
  injection h with h; subst h
  have hs' : ∀ a ∈ es, SuppS a = true := by
    simpa [SuppSList_iff] using hs
  have := dEvalList_sound S d c es
    (fun a ha r hr => dEval_sound S T d c a (hs' a ha) (NonDegList_mem S es hnd a ha) r hr) rs hrs i j
  simp only [den]
  split
  · exact this.2.2 _
  · exact (S.D_zero c).symm

/-- **Refusal.**  An elementary function of a function-bearing argument (e.g. `dx(sin(u))`),
    and every other node kind the operators do not know, is refused — never given a value. -/
theorem dEval_refuses_fn (d : Nat) (c : Coord) (f : String) (a : E) (h : hasT a = true) :
    dEval d c (fn f a) = .error .notImplemented := by
  simp [dEval, hasT, h]

theorem dEval_refuses_op (d : Nat) (c : Coord) (o : Op2) (a b : E) (h : (hasT a || hasT b) = true) :
    dEval d c (op2 o a b) = .error .notImplemented := by
  simp only [dEval, hasT, h]
  simp

/-! ### non-vacuity: the hypotheses are met by concrete non-trivial trees -/

example : SuppS (mul [num 2 1, sf "f" .h1, pow (sf "g" .h1) (num (-1) 1), sym "x"]) = true := by decide
example : (dEval 2 .x (mul [sf "f" .h1, sf "g" .h1])).toOption.isSome = true := by decide
example : reorderL .x1 (pd .x2 (pd .x1 (sf "f" .h1)))
    = .ok (pd .x1 (pd .x1 (pd .x2 (sf "f" .h1)))) := by rfl
example : reorderL .x1 (pd .x2 (pd .x1 (sf "f" .h1))) = reorderL .x1 (pd .x1 (pd .x2 (sf "f" .h1))) := by rfl

end Sympde

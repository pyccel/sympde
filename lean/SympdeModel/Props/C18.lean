/-
  C18 — equations normalise essential boundary conditions faithfully.
  `Shape`, `normalise`, `IsCond` are defined in Lemmas/BC.lean.  Model: Model/BC.lean (`mkCond` = EssentialBC.__new__, `equation` =
  Equation.__new__).
-/
import SympdeModel.Lemmas.BC
namespace Sympde.BC
open Lhs

section Classification

-- how `mkCond` builds and compares its candidates, and the attributes prescribed per shape
attribute [local simp] hasTrace normalAtoms unionNew addNew isVecFn spaceIsVector mkDot Except.map
  eqv_fn eqv_idx eqv_dot Shape.cond Shape.order Shape.var Shape.ic Shape.normal

/-- whatever the constructor accepts is written in one of the four admitted shapes: the
    left-hand side is one of the candidate expressions built from its single function and its
    single normal vector -/
theorem classify_shape (lhs : Lhs) (rhs : String) (b : Bnd) (p : Option Nat)
    (ic0 : Option (List Nat)) (c : Cond) (h : mkCond lhs rhs b p ic0 = .ok c) :
    ∃ s : Shape, s.lhsIs lhs := by
  unfold mkCond at h
  cases hu : theFunction lhs with
  | error e => simp [hu] at h
  | ok u =>
    cases ht : hasTrace lhs with
    | true => simp [hu, ht] at h
    | false =>
      -- in every branch: either `lhs` is one of the candidates, or the constructor refuses
      rcases theFunction_shape lhs u hu with ⟨f, rfl⟩ | ⟨f, i, rfl⟩
      · by_cases h0 : lhs = fn f
        · exact ⟨.value f, h0⟩
        cases hn : normalAtoms lhs with
        | nil => simp [hu, ht, hn, h0] at h
        | cons n ns =>
          cases ns with
          | cons _ _ => simp [hu, ht, hn] at h
          | nil =>
            by_cases h1 : lhs = dot (grad (fn f)) (normal n) ∨ lhs = dot (normal n) (grad (fn f))
            · exact ⟨.normalDeriv f n, h1⟩
            cases hv : f.isVector with
            | false => simp [hu, ht, hn, hv, h0, h1] at h
            | true =>
              by_cases h2 : lhs = dot (fn f) (normal n) ∨ lhs = dot (normal n) (fn f)
              · exact ⟨.normalComp f n, hv, h2⟩
              · simp [hu, ht, hn, hv, h0, h1, h2] at h
      · by_cases h0 : lhs = idx f i
        · refine ⟨.component f i, ?_, h0⟩
          -- a scalar base would be a second function of the left-hand side
          subst h0
          cases f with
          | vector _ _ => rfl
          | scalar _ => cases hu
        cases hn : normalAtoms lhs with
        | nil => simp [hu, ht, hn, h0] at h
        | cons n ns => cases ns <;> simp [hu, ht, hn] at h

/-- **Classification, completeness** — every admitted shape is accepted, with the prescribed
    attributes. -/
theorem classify_complete (s : Shape) (lhs : Lhs) (rhs : String) (b : Bnd) (p : Option Nat)
    (ic0 : Option (List Nat)) (h : s.lhsIs lhs) :
    mkCond lhs rhs b p ic0 = .ok (s.cond lhs rhs b p ic0) := by
  have hu := s.theFunction_eq lhs h
  cases s with
  | value f =>
    cases h
    cases hv : f.isVector <;> simp [mkCond, hu, hv]
  | component f i =>
    obtain ⟨hv, rfl⟩ := h
    simp [mkCond, hu]
  | normalComp f n =>
    obtain ⟨hv, rfl | rfl⟩ := h <;> simp [mkCond, hu, hv]
  | normalDeriv f n =>
    rcases h with rfl | rfl <;> cases hv : f.isVector <;> simp [mkCond, hu, hv]

end Classification

/-- **Classification, soundness** — whatever the constructor accepts is written in one of the
    four admitted shapes, and the object carries exactly the attributes the statement
    prescribes for that shape (order, unknown, constrained components, normal flag), the
    left/right-hand sides, boundary and position being those passed in. -/
theorem classify_sound (lhs : Lhs) (rhs : String) (b : Bnd) (p : Option Nat)
    (ic0 : Option (List Nat)) (c : Cond) (h : mkCond lhs rhs b p ic0 = .ok c) :
    ∃ s : Shape, s.lhsIs lhs ∧ c = s.cond lhs rhs b p ic0 := by
  obtain ⟨s, hs⟩ := classify_shape lhs rhs b p ic0 c h
  rw [classify_complete s lhs rhs b p ic0 hs] at h
  injection h with h
  exact ⟨s, hs, h.symm⟩

/-- **bad_lhs_refused** — a left-hand side that is not of an admitted shape is refused. -/
theorem bad_lhs_refused (lhs : Lhs) (rhs : String) (b : Bnd) (p : Option Nat)
    (ic0 : Option (List Nat)) (h : ∀ s : Shape, ¬ s.lhsIs lhs) :
    ∃ e, mkCond lhs rhs b p ic0 = .error e := by
  cases hm : mkCond lhs rhs b p ic0 with
  | error e => exact ⟨e, rfl⟩
  | ok c =>
    obtain ⟨s, hs, _⟩ := classify_sound lhs rhs b p ic0 c hm
    exact absurd hs (h s)

/-- re-running the constructor on the attributes of an existing condition (what the expansion
    over a union does) reproduces the condition, on the new boundary and with the new position -/
theorem mkCond_again (c : Cond) (hc : IsCond c) (b' : Bnd) (p' : Option Nat) :
    mkCond c.lhs c.rhs b' p' c.indexComponent = .ok { c with boundary := b', position := p' } := by
  obtain ⟨p0, ic0, h⟩ := hc
  obtain ⟨s, hs, hc⟩ := classify_sound _ _ _ _ _ _ h
  have h2 := classify_complete s c.lhs c.rhs b' p' c.indexComponent hs
  rw [h2]
  have hic : c.indexComponent = s.ic ic0 := by rw [hc]; rfl
  rw [hic]
  have ho : c.order = s.order := by rw [hc]; rfl
  have hv : c.var = s.var := by rw [hc]; rfl
  have hn : c.normalComponent = s.normal := by rw [hc]; rfl
  simp only [Shape.cond, Shape.ic_idem, ho, hv, hn]

theorem perFace_spec (c : Cond) (hc : IsCond c) (p : Option Nat) (faces : List String) :
    perFace { c with position := p } faces
      = .ok (faces.map fun j => { c with boundary := .face j, position := p }) := by
  induction faces with
  | nil => rfl
  | cons j js ih =>
    unfold perFace
    have := mkCond_again c hc (.face j) p
    simp only at this ⊢
    rw [this, ih]
    rfl

/-- **expand_faces** — for every list of conditions (EssentialBC objects) on trial functions,
    the equation holds, in the order of declaration, one condition per face of each declared
    boundary (faces in the order of the union's members), every copy having the left and
    right-hand side, order, unknown, constrained components and normal flag of the declared
    condition, and the index of the unknown among the trial functions as position. -/
theorem expand_faces (trials : List Fn) (cs : List Cond) (hwf : ∀ c ∈ cs, IsCond c)
    (htrial : ∀ c ∈ cs, (indexOf c.var trials).isSome = true) :
    expandBC trials (cs.map .essential) = .ok (cs.flatMap (normalise trials)) := by
  induction cs with
  | nil => rfl
  | cons c cs ih =>
    have hc := hwf c (by simp)
    have ht := htrial c (by simp)
    have ih' := ih (fun x hx => hwf x (by simp [hx])) (fun x hx => htrial x (by simp [hx]))
    simp only [List.map_cons, expandBC, List.flatMap_cons]
    cases hi : indexOf c.var trials with
    | none => simp [hi] at ht
    | some p =>
      simp only [ih']
      cases hb : c.boundary with
      | face j =>
        simp only [normalise, hb, facesOf, hi, List.map_cons, List.map_nil]
      | union faces =>
        have hp := perFace_spec c hc (some p) faces
        simp only [hb] at hp
        simp only [normalise, hb, facesOf, hi]
        rw [hp]

/-- a successful expansion: every declared condition is on a trial function (otherwise the call
    fails), so the entries are the prescribed ones -/
theorem expand_ok (trials : List Fn) (cs : List Cond) (out : List Cond)
    (hwf : ∀ c ∈ cs, IsCond c) (h : expandBC trials (cs.map .essential) = .ok out) :
    (∀ c ∈ cs, (indexOf c.var trials).isSome = true) ∧ out = cs.flatMap (normalise trials) := by
  have htrial : ∀ c ∈ cs, (indexOf c.var trials).isSome = true := by
    clear hwf
    induction cs generalizing out with
    | nil => simp
    | cons c cs ih =>
      simp only [List.map_cons, expandBC] at h
      cases hi : indexOf c.var trials with
      | none => simp [hi] at h
      | some p =>
        simp only [hi] at h
        intro x hx
        rcases List.mem_cons.mp hx with rfl | hx
        · simp [hi]
        · cases hr : expandBC trials (cs.map .essential) with
          | error e =>
            rw [hr] at h
            split at h <;> simp at h
          | ok more => exact ih more hr x hx
  rw [expand_faces trials cs hwf htrial] at h
  injection h with h
  exact ⟨htrial, h.symm⟩

/-- **position_is_index** — the position stored in every entry of `equation.bc` is the index
    of the first trial function equal to the constrained unknown: it is a valid index, the
    trial function there is the unknown, and no earlier one is. -/
theorem position_is_index (trials : List Fn) (cs : List Cond) (out : List Cond)
    (hwf : ∀ c ∈ cs, IsCond c) (h : expandBC trials (cs.map .essential) = .ok out) :
    ∀ e ∈ out, ∃ p t, e.position = some p ∧ trials[p]? = some t ∧ t.same e.var = true ∧
      ∀ q, q < p → ∀ t', trials[q]? = some t' → t'.same e.var = false := by
  obtain ⟨htrial, rfl⟩ := expand_ok trials cs out hwf h
  intro e he
  obtain ⟨c, hc, he⟩ := List.mem_flatMap.mp he
  obtain ⟨j, _, rfl⟩ := List.mem_map.mp he
  obtain ⟨p, hi⟩ := Option.isSome_iff_exists.mp (htrial c hc)
  obtain ⟨t, h1, h2, h3⟩ := indexOf_spec c.var trials p hi
  exact ⟨p, t, hi, h1, h2, h3⟩

/-- **non_trial_refused** — if one of the conditions constrains a function that is not a trial
    function (no trial function is equal to it), the equation is refused. -/
theorem non_trial_refused (trials : List Fn) (items : List BcItem) (c : Cond)
    (hc : BcItem.essential c ∈ items) (hnot : ∀ t ∈ trials, t.same c.var = false) :
    ∃ e, expandBC trials items = .error e := by
  have hnone : indexOf c.var trials = none := by
    induction trials with
    | nil => rfl
    | cons t ts ih =>
      rw [indexOf, hnot t (by simp), ih (fun t' ht' => hnot t' (by simp [ht']))]
      rfl
  induction items with
  | nil => cases hc
  | cons i rest ih =>
    rcases List.mem_cons.mp hc with h | h
    · subst h
      exact ⟨.notTrial, by simp [expandBC, hnone]⟩
    · obtain ⟨e, he⟩ := ih h
      cases i with
      | essential c' =>
        simp only [expandBC]
        cases indexOf c'.var trials with
        | none => exact ⟨_, rfl⟩
        | some p =>
          simp only
          split
          · exact ⟨_, rfl⟩
          · rw [he]; exact ⟨_, rfl⟩
      | otherBC => exact ⟨_, rfl⟩
      | notBC => exact ⟨_, rfl⟩

/-- … and the refusal reaches the caller of `Equation`: with well-typed arguments, a list of
    conditions one of which is on a non-trial function never yields an equation. -/
theorem non_trial_refused_equation (lhs rhs : String) (trials tests : List Fn) (items : List BcItem)
    (c : Cond) (hc : BcItem.essential c ∈ items) (hnot : ∀ t ∈ trials, t.same c.var = false) :
    ∃ e, equation true true lhs rhs (.many (trials.map .fn)) (.many (tests.map .fn)) (.many items)
      = .error e := by
  have hf : ∀ l : List Fn, fnArg (.many (l.map .fn)) = .ok l := by
    intro l
    have : fnItems (l.map .fn) = some l := by
      induction l with
      | nil => rfl
      | cons a l ih => simp [fnItems, ih]
    simp [fnArg, this]
  obtain ⟨e, he⟩ := non_trial_refused trials items c hc hnot
  cases items with
  | nil => cases hc
  | cons i rest =>
    simp only [equation, hf, Bool.not_true, Bool.false_eq_true, if_false]
    by_cases hall : (i :: rest).all isBC = true
    · simp only [hall, if_true]; rw [he]; exact ⟨_, rfl⟩
    · simp only [hall]; exact ⟨_, rfl⟩

/-- **lhs_rhs_kept** — a successfully built equation keeps its two forms and its function
    lists (`bc_sides_kept`: and every entry of its `bc` has the left and right-hand side of one of
    the declared conditions). -/
theorem lhs_rhs_kept (lb rl : Bool) (lhs rhs : String) (trials tests : FnArg) (bc : BcArg)
    (out : EqOut) (h : equation lb rl lhs rhs trials tests bc = .ok out) :
    out.lhs = lhs ∧ out.rhs = rhs ∧ fnArg trials = .ok out.trials ∧ fnArg tests = .ok out.tests := by
  unfold equation at h
  split at h
  · cases h
  · split at h
    · cases h
    · cases ht : fnArg tests with
      | error e => simp [ht] at h
      | ok ts =>
        cases hr : fnArg trials with
        | error e => simp [ht, hr] at h
        | ok tr =>
          simp only [ht, hr] at h
          split at h
          · cases h
          · injection h with h; subst h; exact ⟨rfl, rfl, rfl, rfl⟩
          · split at h
            · cases h
            · injection h with h; subst h; exact ⟨rfl, rfl, rfl, rfl⟩

theorem bc_sides_kept (trials : List Fn) (cs : List Cond) (out : List Cond)
    (hwf : ∀ c ∈ cs, IsCond c) (h : expandBC trials (cs.map .essential) = .ok out) :
    ∀ e ∈ out, ∃ c ∈ cs, e.lhs = c.lhs ∧ e.rhs = c.rhs ∧ e.order = c.order ∧ e.var = c.var ∧
      e.indexComponent = c.indexComponent ∧ e.normalComponent = c.normalComponent ∧
      ∃ j ∈ facesOf c.boundary, e.boundary = .face j := by
  obtain ⟨-, rfl⟩ := expand_ok trials cs out hwf h
  intro e he
  obtain ⟨c, hc, he⟩ := List.mem_flatMap.mp he
  obtain ⟨j, hj, rfl⟩ := List.mem_map.mp he
  exact ⟨c, hc, rfl, rfl, rfl, rfl, rfl, rfl, j, hj, rfl⟩

/-- the number of entries is the total number of faces -/
theorem expand_length (trials : List Fn) (cs : List Cond) :
    (cs.flatMap (normalise trials)).length = (cs.map fun c => (facesOf c.boundary).length).sum := by
  induction cs with
  | nil => rfl
  | cons c cs ih => simp [normalise, ih]

/-! ### non-vacuity -/

def F : Fn := .vector "F" 3
def u : Fn := .scalar "u"
def cF : Cond := (Shape.normalComp F "nn").cond (dot (fn F) (normal "nn")) "0"
  (.union ["G1", "G2", "G3"]) none none
def cu : Cond := (Shape.value u).cond (fn u) "g" (.face "G4") none none

example : IsCond cF := ⟨none, none, by rfl⟩
example : IsCond cu := ⟨none, none, by rfl⟩
example : (Shape.normalComp F "nn").lhsIs (dot (normal "nn") (fn F)) := ⟨rfl, Or.inr rfl⟩
example : ∀ s : Shape, ¬ s.lhsIs (other "Mul" (cons (other "Integer(2)" nil) (cons (fn u) nil))) := by
  intro s; cases s <;> simp [Shape.lhsIs]
example : (expandBC [u, F] [.essential cF, .essential cu]).toOption.map (·.map (fun c => (c.boundary, c.position)))
    = some [(.face "G1", some 1), (.face "G2", some 1), (.face "G3", some 1), (.face "G4", some 0)] := by
  decide
example : expandBC [u] [.essential cu, .essential cF] = .error .notTrial := by rfl
example : (equation true true "a" "l" (.many [.fn u, .fn F]) (.many [.fn u, .fn F])
    (.many [.essential cF])).toOption.map (fun o => (o.lhs, o.rhs)) = some ("a", "l") := by decide

/-! ### histories: several equations from shared condition objects -/

theorem run_wf (w : World) (ops : List Op) (hw : w.WF) : (run w ops).WF := by
  induction ops generalizing w with
  | nil => exact hw
  | cons op ops ih => exact ih (step w op) (step_wf w op hw)

/-- **history_independent** — whatever the caller does afterwards (new conditions, further
    equations built from the SAME condition objects with other trial lists, repositioning of its
    own objects), an equation built earlier reports the same bc entries. -/
theorem history_independent (w : World) (ops : List Op) (hw : w.WF) (k : Nat) (hk : k < w.eqs.length) :
    readEq (run w ops) k = readEq w k := by
  induction ops generalizing w with
  | nil => rfl
  | cons op ops ih =>
    show readEq (run (step w op) ops) k = _
    rw [ih (step w op) (step_wf w op hw) (Nat.lt_of_lt_of_le hk (step_eqs_prefix w op k hk).2), step_frame w op hw k hk]

/-- **build_keeps_callers** — building equations (and creating conditions) never changes an
    object that existed before: the caller's conditions keep all their attributes. -/
theorem build_keeps_callers (w : World) (ops : List Op) (hops : ∀ op ∈ ops, ∀ a p, op ≠ .reposition a p)
    (a : Nat) (ha : a < w.heap.length) : (run w ops).heap[a]? = w.heap[a]? := by
  induction ops generalizing w with
  | nil => rfl
  | cons op ops ih =>
    show (run (step w op) ops).heap[a]? = _
    have h1 := step_heap_prefix w op (hops op (by simp)) a ha
    have hlen : a < (step w op).heap.length := by
      have : (step w op).heap[a]? = some w.heap[a] := by rw [h1]; exact List.getElem?_eq_getElem ha
      exact (List.getElem?_eq_some_iff.mp this).1
    rw [ih (step w op) (fun o ho => hops o (by simp [ho])) hlen, h1]

/-- **build_entries** — a successful construction adds one equation whose entries are the result
    of `expandBC` on the CURRENT attributes of the given objects. -/
theorem build_entries (w : World) (trials : List Fn) (addrs : List Nat) (cs out : List Cond)
    (hget : getAll w.heap addrs = some cs) (hex : expandBC trials (cs.map .essential) = .ok out) :
    (step w (.build trials addrs)).eqs.length = w.eqs.length + 1 ∧
    readEq (step w (.build trials addrs)) w.eqs.length = some out := by
  simp only [step, hget, hex, readEq, List.length_append, List.length_cons, List.length_nil, true_and]
  simp [getAll_fresh]

/-- **positions_survive_history** — the entries of an equation carry, and keep carrying after any
    later operations, the index of the constrained unknown among the trial functions of THAT
    equation. -/
theorem positions_survive_history (w : World) (hw : w.WF) (trials : List Fn) (addrs : List Nat)
    (cs out : List Cond) (hget : getAll w.heap addrs = some cs) (hwf : ∀ c ∈ cs, IsCond c)
    (hex : expandBC trials (cs.map .essential) = .ok out) (ops : List Op) :
    readEq (run (step w (.build trials addrs)) ops) w.eqs.length = some out ∧
    ∀ e ∈ out, ∃ p t, e.position = some p ∧ trials[p]? = some t ∧ t.same e.var = true ∧
      ∀ q, q < p → ∀ t', trials[q]? = some t' → t'.same e.var = false := by
  have hb := build_entries w trials addrs cs out hget hex
  refine ⟨?_, position_is_index trials cs out hwf hex⟩
  rw [history_independent _ ops (step_wf w _ hw) _ (by rw [hb.1]; exact Nat.lt_succ_self _), hb.2]

/-! the seeded behaviour: the single-face fast path stores and repositions the caller's object -/

def pS : Fn := .scalar "p"
def w0 : World := { heap := [cu], eqs := [] }

/-- **aliased_breaks_history** — with the aliasing variant, building a second equation from the
    same single-face condition with the unknown at another index changes what the FIRST equation
    reports, and the caller's object; with `step` neither happens. -/
theorem aliased_breaks_history :
    let wa := stepAliased (stepAliased w0 (.build [u, pS] [0])) (.build [pS, u] [0])
    let wg := step (step w0 (.build [u, pS] [0])) (.build [pS, u] [0])
    (readEq (stepAliased w0 (.build [u, pS] [0])) 0).map (·.map (·.position)) = some [some 0] ∧
    (readEq wa 0).map (·.map (·.position)) = some [some 1] ∧
    (wa.heap[0]?).map (·.position) = some (some 1) ∧
    (readEq wg 0).map (·.map (·.position)) = some [some 0] ∧
    (readEq wg 1).map (·.map (·.position)) = some [some 1] ∧
    (wg.heap[0]?).map (·.position) = some none := by
  decide

end Sympde.BC

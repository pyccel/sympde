/-
  C08 — the linearity verdict at form construction is exact.
  Property theorems only.  Model: Model/Linear.lean (`additive`, `homogeneous`, `isLinear`,
  `isBilinear` = `is_linear_expression` and the verdicts of LinearForm / BilinearForm), using
  Model/Subst.lean, Model/Calc.lean (operator constructors) and Model/RingEq.lean (comparison).
  Helpers: Lemmas/Linear.lean (the operator-free fragment), Lemmas/LinearSound.lean (soundness and
  totality of the two tests), Lemmas/LinearSum.lean (verdict per integral, the lumped and the
  term-wise variants), Lemmas/LinearProduct.lean (refutations, product arguments, absent arguments,
  the one-tag variant), Lemmas/RingEq.lean, Sem/Instances.lean (polynomial DRing).
-/
import SympdeModel.Lemmas.LinearProduct
namespace Sympde.Linear
open E
open Sympde.Sub
open Sympde.Apply (mapLeaves mapLeavesList ruleFn ruleFn_nil ruleFn_cons_self ruleFn_cons_ne)

variable {K : Type} [CommRing K] [Algebra ℚ K]

/-- **accept_sound** — if the additivity and homogeneity tests of the model succeed on an
    integrand, and re-evaluation preserves the meaning of the substituted trees, then in every
    differential ring (all functions, all points) the integrand with `l + r` substituted for the
    arguments means the sum of the integrands with `l` and with `r`, and with `α·l` substituted
    it means `α` times the integrand with `l` — for arbitrary interpretations of the fresh
    functions `l`, `r` and of the constant `α`. -/
theorem accept_sound (S : DRing K) (d : Nat) (lg : Bool) (args : List E) (e : E)
    (ha : additive d args e = .ok true) (hh : homogeneous d args e = .ok true)
    (hs : ∀ vals, ReevalSound S d lg (subst (args.zip vals) e)) :
    denG S d lg (subst (args.zip (sumVals args)) e) 0 0
      = denG S d lg (subst (args.zip (freshList "l#" args)) e) 0 0
        + denG S d lg (subst (args.zip (freshList "r#" args)) e) 0 0 ∧
    denG S d lg (subst (args.zip (mulVals args)) e) 0 0
      = S.cst "alpha#" * denG S d lg (subst (args.zip (freshList "l#" args)) e) 0 0 :=
  ⟨additive_sound S d lg args e ha (hs _) (hs _) (hs _), homogeneous_sound S d lg args e hh (hs _) (hs _)⟩

/-- **accept_sound** on the fragment polynomial in the arguments and their derivatives
    (arbitrary coefficient fields, constants, coordinates, elementary functions): no hypothesis
    on the re-evaluation is needed. -/
theorem accept_sound_opfree (S : DRing K) (d : Nat) (lg : Bool) (args : List E) (e : E)
    (hargs : ∀ a ∈ args, isFn a = true) (he : OpFree e = true)
    (ha : additive d args e = .ok true) (hh : homogeneous d args e = .ok true) :
    denG S d lg (subst (args.zip (sumVals args)) e) 0 0
      = denG S d lg (subst (args.zip (freshList "l#" args)) e) 0 0
        + denG S d lg (subst (args.zip (freshList "r#" args)) e) 0 0 ∧
    denG S d lg (subst (args.zip (mulVals args)) e) 0 0
      = S.cst "alpha#" * denG S d lg (subst (args.zip (freshList "l#" args)) e) 0 0 :=
  have rs := fun vals hv => (reevalSound_opfree S d lg args vals e hargs hv he).1
  ⟨additive_sound S d lg args e ha (rs _ (sumVals_opfree args hargs)) (rs _ (freshList_opfree _ args hargs))
      (rs _ (freshList_opfree _ args hargs)),
    homogeneous_sound S d lg args e hh (rs _ (mulVals_opfree args hargs)) (rs _ (freshList_opfree _ args hargs))⟩

/-- **reject_sound_const** — an integrand with a non-zero constant term, `c + u`, is rejected. -/
theorem reject_sound_const (d : Nat) (u : String) (k : Kind) (dom : String) (p : Int) (q : Nat)
    (hc : ((p : ℚ) / (q : ℚ)) ≠ 0) :
    isLinear d [sf u k] [(dom, add [num p q, sf u k])] = .ok false := by
  apply reject_single d u k dom _ rfl 0 (fun _ => 1)
  simp only [mapLeaves, mapLeavesList, ruleFn_cons_self, denG, denGSum, denGProd, alpha, l0, refute_sf,
    refute_cst, evalAt_add, evalAt_mul, evalAt_zero, evalAt_C, evalAt_algebraMap]
  exact fun h => hc (by linear_combination (-1 : ℚ) * h)

/-- **reject_sound_power** — a power `u^m`, `m ≥ 2`, of the argument is rejected. -/
theorem reject_sound_power (d : Nat) (u : String) (k : Kind) (dom : String) (m : Nat) (hm : 2 ≤ m) :
    isLinear d [sf u k] [(dom, pow (sf u k) (num (Int.ofNat m) 1))] = .ok false := by
  apply reject_single d u k dom _ rfl 1 (fun _ => 1)
  simp only [mapLeaves, ruleFn_cons_self, denG, denGProd, powSem, PD.intLit, alpha, l0, refute_sf,
    refute_cst, evalAt_pow, evalAt_one, evalAt_C, mul_one, one_pow]
  exact two_pow_ne m hm

/-- **reject_sound_selfproduct** — a product of the argument with itself, `u·u`, is rejected … -/
theorem reject_sound_selfproduct (d : Nat) (u : String) (k : Kind) (dom : String) :
    isLinear d [sf u k] [(dom, mul [sf u k, sf u k])] = .ok false := by
  apply reject_single d u k dom _ rfl 1 (fun _ => 1)
  simp only [mapLeaves, mapLeavesList, ruleFn_cons_self, denG, denGProd, alpha, l0, refute_sf, refute_cst, evalAt_mul,
    evalAt_one, evalAt_C, mul_one]
  norm_num

/-- … and so is the product of the argument with its own derivative, `u·∂u`. -/
theorem reject_sound_selfproduct_deriv (d : Nat) (u : String) (k : Kind) (dom : String) (c : Coord) :
    isLinear d [sf u k] [(dom, mul [sf u k, pd c (sf u k)])] = .ok false := by
  apply reject_single d u k dom _ rfl (MvPolynomial.X c) (fun _ => 1)
  simp only [mapLeaves, mapLeavesList, ruleFn_cons_self, denG, denGProd, alpha, l0, refute_sf, refute_cst, refute_D,
    mul_one, Derivation.leibniz, MvPolynomial.pderiv_X_self, MvPolynomial.pderiv_C, smul_eq_mul, evalAt_mul, evalAt_add,
    evalAt_zero, evalAt_C]
  simp [evalAt]

/-- **reject_sound_nonlinear_fn** — an elementary function of the argument, `f(u)`, is rejected
    (the refuting interpretation reads `f` as the square). -/
theorem reject_sound_nonlinear_fn (d : Nat) (u : String) (k : Kind) (dom : String) (f : String) :
    isLinear d [sf u k] [(dom, fn f (sf u k))] = .ok false := by
  apply reject_single d u k dom _ rfl 1 (fun _ => 1)
  simp only [mapLeaves, ruleFn_cons_self, denG, denGProd, alpha, l0, refute_sf, refute_cst, refute_fn, evalAt_mul,
    evalAt_one, evalAt_C, mul_one]
  norm_num

/-! ### sums of integrals: one verdict per integral

  `is_linear_expression` compares the whole `IntAdd`; integrals over different regions are different
  atoms of that comparison, so the test holds iff it holds for the integrand of every region
  (`isLinear` = conjunction over the integrals).  A violation on `Ω` cannot be compensated on `Γ`. -/

/-- **verdict_is_conjunction** — the verdict on a sum of integrals is positive iff the verdict on
    every integral taken alone is (no hypothesis on the integrands). -/
theorem verdict_is_conjunction (d : Nat) (args : List E) (ints : List (String × E)) :
    isLinear d args ints = .ok true ↔ ∀ p ∈ ints, isLinear d args [p] = .ok true :=
  isLinear_true_iff d args ints

/-- **reject_sound_any_integral** — on operator-free integrands: if ONE integral alone is rejected,
    the sum is rejected, whatever the other integrals are. -/
theorem reject_sound_any_integral (d : Nat) (args : List E) (ints : List (String × E))
    (hargs : ∀ a ∈ args, isFn a = true) (hall : ∀ p ∈ ints, OpFree p.2 = true)
    (p : String × E) (hp : p ∈ ints) (h : isLinear d args [p] = .ok false) :
    isLinear d args ints = .ok false := by
  obtain ⟨b, hb⟩ := isLinear_total d args ints hargs hall
  cases b with
  | false => exact hb
  | true => exact absurd ((isLinear_true_iff d args ints).mp hb p hp) (by rw [h]; exact fun hh => by cases hh)

/-! ### an argument group that does not occur: the integrand is constant in it -/

/-- **reject_sound_argfree** — "does not depend on the argument: constant term".  Whatever the
    (product) argument is: if ONE integral of the form does not contain any of its components, and
    is not zero (in some polynomial interpretation of its symbols), the verdict is False.  This is
    the case of a linear form without test function, of a bilinear form without trial function, and
    of a single integral of a domain + boundary sum that lacks them. -/
theorem reject_sound_argfree (d : Nat) (args : List E) (ints : List (String × E))
    (hargs : ∀ a ∈ args, isFn a = true) (hall : ∀ p ∈ ints, OpFree p.2 = true)
    (p : String × E) (hp : p ∈ ints) (hfree : occurs args p.2 = false)
    (sfv : String → PolyK) (vfv : String → Nat → PolyK)
    (hne : denG (polyDRing sfv vfv (fun _ => 2)) d false p.2 0 0 ≠ 0) :
    isLinear d args ints = .ok false := by
  apply reject_of_refutation_ints (polyDRing sfv vfv (fun _ => 2)) d args ints hargs hall p hp
  rw [subst_argfree args _ p.2 (by rw [length_mulVals]) hfree,
    subst_argfree args _ p.2 (by rw [length_freshList]) hfree]
  have hc : (polyDRing sfv vfv (fun _ => 2)).cst "alpha#" = (2 : PolyK) := map_ofNat MvPolynomial.C 2
  rw [hc]
  -- `x = 2·x` only for `x = 0`
  exact fun h => hne (by linear_combination (-1 : PolyK) * h)

/-- a linear form whose integrand is a product of two coordinates — no test function at all — is
    rejected, for every (product) argument. -/
theorem reject_sound_no_test_function (d : Nat) (args : List E) (hargs : ∀ a ∈ args, isFn a = true)
    (dom : String) (c1 c2 : Coord) :
    isLinear d args [(dom, mul [sym c1.name, sym c2.name])] = .ok false := by
  apply reject_sound_argfree d args _ hargs (List.forall_mem_singleton.mpr rfl) _ (List.mem_singleton_self _)
    _ (fun _ => 0) (fun _ _ => 0)
  · apply ne_of_evalAt (fun _ => 1)
    simp only [denG, denGProd, polyDRing_sym, mul_one, evalAt_mul, evalAt_zero, evalAt_X]
    norm_num
  · simp only [occurs, occursList, any_eqb_nonfn args hargs _ (rfl : isFn (mul _) = false),
      any_eqb_nonfn args hargs _ (rfl : isFn (sym _) = false), Bool.or_self]

/-- a bilinear form whose integrand `x·v` contains no trial function is rejected (the trial side
    is tested first and fails). -/
theorem reject_sound_no_trial_function (d : Nat) (u v : String) (k k' : Kind) (tests : List E) (dom : String)
    (c : Coord) (huv : u ≠ v) :
    isBilinear d [sf u k] tests [(dom, mul [sym c.name, sf v k'])] = .ok false :=
  isBilinear_false_of_trials d _ tests _
    (reject_sound_argfree d _ _ (List.forall_mem_singleton.mpr rfl) (List.forall_mem_singleton.mpr rfl) _
      (List.mem_singleton_self _) (occurs_coord_times_other u v k k' c huv) _ _ (coord_times_fn_ne_zero d v k' c))

/-- in a domain + boundary sum it is enough that ONE integral lacks the trial function:
    `∫_Ω u·v + ∫_Γ x·v` is rejected. -/
theorem reject_sound_no_trial_function_in_one_integral (d : Nat) (u v : String) (k k' : Kind) (tests : List E)
    (dom bnd : String) (c : Coord) (huv : u ≠ v) :
    isBilinear d [sf u k] tests [(dom, mul [sf u k, sf v k']), (bnd, mul [sym c.name, sf v k'])] = .ok false :=
  isBilinear_false_of_trials d _ tests _
    (reject_sound_argfree d _ _ (List.forall_mem_singleton.mpr rfl)
      (List.forall_mem_cons.mpr ⟨rfl, List.forall_mem_singleton.mpr rfl⟩) (bnd, mul [sym c.name, sf v k'])
      (List.mem_cons_of_mem _ (List.mem_singleton_self _)) (occurs_coord_times_other u v k k' c huv) _ _
      (coord_times_fn_ne_zero d v k' c))

/-! ### product arguments: different components get different fresh functions -/

/-- **fresh_functions_distinct** — the functions substituted for two different components of a
    product argument are different, also when the components are of the same kind (the tag is
    generated inside the loop over the arguments, expr.py:761-762). -/
theorem fresh_functions_distinct (pre : String) (args : List E) (hargs : ∀ a ∈ args, isFn a = true)
    (i j : Nat) (hi : i < args.length) (hj : j < args.length) (hij : i ≠ j) :
    (freshList pre args)[i]'(by rw [length_freshList]; exact hi)
      ≠ (freshList pre args)[j]'(by rw [length_freshList]; exact hj) := by
  rw [freshList_getElem pre args i hi, freshList_getElem pre args j hj]
  exact fresh_ne pre i j _ _ (hargs _ (List.getElem_mem hi)) (hargs _ (List.getElem_mem hj)) hij

/-- **reject_sound_component_product** — the product `u₁·u₂` of two components of a product
    argument is rejected. -/
theorem reject_sound_component_product (d : Nat) (u1 u2 : String) (k1 k2 : Kind) (dom : String) (hne : u1 ≠ u2) :
    isLinear d [sf u1 k1, sf u2 k2] [(dom, mul [sf u1 k1, sf u2 k2])] = .ok false := by
  apply reject_pair d u1 u2 k1 k2 dom _ rfl
  have h12 : sf u1 k1 ≠ sf u2 k2 := fun h => hne (sf.inj h).1
  simp only [mapLeaves, mapLeavesList, ruleFn_cons_self, ruleFn_cons_ne _ _ _ _ h12, denG, denGProd, alpha, l0, l1,
    refutePair_cst, refutePair_l0, refutePair_l1, evalAt_C, evalAt_mul, evalAt_two, mul_one]
  norm_num

/-- **reject_sound_component_difference** — `u₁·(u₁ − u₂)`, non-linear in the product argument
    `(u₁, u₂)` although it vanishes when the two components are identified, is rejected. -/
theorem reject_sound_component_difference (d : Nat) (u1 u2 : String) (k : Kind) (dom : String) (hne : u1 ≠ u2) :
    isLinear d [sf u1 k, sf u2 k] [(dom, mul [sf u1 k, add [sf u1 k, mul [num (-1) 1, sf u2 k]]])] = .ok false := by
  apply reject_pair d u1 u2 k k dom _ rfl
  have h12 : sf u1 k ≠ sf u2 k := fun h => hne (sf.inj h).1
  simp only [mapLeaves, mapLeavesList, ruleFn_cons_self, ruleFn_cons_ne _ _ _ _ h12, denG, denGSum, denGProd, alpha,
    l0, l1, refutePair_cst, refutePair_l0, refutePair_l1, evalAt_C, evalAt_mul, evalAt_add, evalAt_two, evalAt_algebraMap, mul_one,
    add_zero]
  norm_num

/-- **reject_sound_difference_square** — `(v₁ − v₂)²` is rejected. -/
theorem reject_sound_difference_square (d : Nat) (v1 v2 : String) (k : Kind) (dom : String) (hne : v1 ≠ v2) :
    isLinear d [sf v1 k, sf v2 k] [(dom, pow (add [sf v1 k, mul [num (-1) 1, sf v2 k]]) (num 2 1))] = .ok false := by
  apply reject_pair d v1 v2 k k dom _ rfl
  have h12 : sf v1 k ≠ sf v2 k := fun h => hne (sf.inj h).1
  simp only [mapLeaves, mapLeavesList, ruleFn_cons_self, ruleFn_cons_ne _ _ _ _ h12, denG, denGSum, denGProd, powSem,
    PD.intLit, alpha, l0, l1, refutePair_cst, refutePair_l0, refutePair_l1, evalAt_C, evalAt_mul, evalAt_add, evalAt_pow, evalAt_two,
    evalAt_algebraMap, mul_one, add_zero]
  norm_num

/-- the same inside a bilinear form: `u₁·(u₁ − u₂)·v` over the trial functions `(u₁, u₂)`. -/
theorem reject_sound_component_difference_bilinear (d : Nat) (u1 u2 v : String) (k k' : Kind) (tests : List E)
    (dom : String) (hne : u1 ≠ u2) (h1 : u1 ≠ v) (h2 : u2 ≠ v) :
    isBilinear d [sf u1 k, sf u2 k] tests
      [(dom, mul [sf u1 k, add [sf u1 k, mul [num (-1) 1, sf u2 k]], sf v k'])] = .ok false := by
  apply isBilinear_false_of_trials
  apply reject_pair d u1 u2 k k dom _ rfl
  have h12 : sf u1 k ≠ sf u2 k := fun h => hne (sf.inj h).1
  have h1v : sf u1 k ≠ sf v k' := fun h => h1 (sf.inj h).1
  have h2v : sf u2 k ≠ sf v k' := fun h => h2 (sf.inj h).1
  simp only [mapLeaves, mapLeavesList, ruleFn_cons_self, ruleFn_cons_ne _ _ _ _ h12, ruleFn_cons_ne _ _ _ _ h1v,
    ruleFn_cons_ne _ _ _ _ h2v, ruleFn_nil, denG, denGSum, denGProd, alpha, l0, l1,
    refutePair_cst, refutePair_l0, refutePair_l1, evalAt_C, evalAt_mul, evalAt_add, evalAt_two, evalAt_algebraMap, mul_one, add_zero]
  rcases refutePair_sf v with h | h <;> rw [h] <;> simp only [evalAt_two, evalAt_one] <;> norm_num

/-! ### why the distinctness matters: the variant with one tag for all the arguments

  `isLinearShared` (Lemmas/LinearProduct.lean) replaces every component of the same kind by the
  same fresh function, i.e. tests additivity and homogeneity on the diagonal `u₁ = u₂` only.  It
  coincides with the test for a single argument and accepts integrands that are not linear. -/

def exU1 : E := sf "u1" .h1
def exU2 : E := sf "u2" .h1
def exV1 : E := sf "v1" .h1
def exV2 : E := sf "v2" .h1

/-- **shared_tag_accepts_nonlinear** — counterexamples: with a single tag, `u₁·(u₁ − u₂)` and
    `(v₁ − v₂)²` are accepted; the model (and the code) rejects them. -/
theorem shared_tag_accepts_nonlinear :
    (isLinearShared 2 [exU1, exU2] [("Omega", mul [exU1, add [exU1, mul [num (-1) 1, exU2]]])] = .ok true ∧
      isLinear 2 [exU1, exU2] [("Omega", mul [exU1, add [exU1, mul [num (-1) 1, exU2]]])] = .ok false) ∧
    (isLinearShared 2 [exV1, exV2] [("Omega", pow (add [exV1, mul [num (-1) 1, exV2]]) (num 2 1))] = .ok true ∧
      isLinear 2 [exV1, exV2] [("Omega", pow (add [exV1, mul [num (-1) 1, exV2]]) (num 2 1))] = .ok false) :=
  ⟨⟨by decide +kernel, reject_sound_component_difference 2 "u1" "u2" .h1 "Omega" (by decide +kernel)⟩,
    ⟨by decide +kernel, reject_sound_difference_square 2 "v1" "v2" .h1 "Omega" (by decide +kernel)⟩⟩

/-- for a single argument the one-tag variant is the test itself -/
theorem shared_tag_same_on_single_argument (d : Nat) (a : E) (ints : List (String × E)) :
    isLinearShared d [a] ints = isLinear d [a] ints := isLinearShared_single d a ints

/- Goal (not proved): `reject_sound_full` — for every operator-free integrand `e` whose polynomial
   normal form in the argument and its derivatives has a monomial of argument-degree ≠ 1 there is an
   interpretation refuting additivity or homogeneity, hence `isLinear … = .ok false`; and the
   `degree_criterion` (`isLinear = .ok true` iff every monomial has argument-degree exactly 1).  Both
   need that distinct normal forms of core's normaliser are separated by some interpretation. -/

/-! ### non-vacuity: the model accepts the classical linear integrands -/

def exV : E := sf "v" .h1
def exU : E := sf "u" .h1
def exFld : E := sf "f" .h1

example : isLinear 2 [exV] [("Omega", add [mul [exFld, exV], mul [num 2 1, pd .x exV]])] = .ok true := by decide +kernel
example : isBilinear 2 [exU] [exV]
    [("Omega", add [mul [exFld, op2 .dot (op1 .grad exU) (op1 .grad exV)], mul [exU, exV]]), ("Gamma", mul [exU, exV])]
    = .ok true := by decide +kernel
example : isBilinear 2 [exU] [exV] [("Omega", mul [exU, exU, exV])] = .ok false := by decide +kernel
example : OpFree (add [mul [exFld, exV], mul [num 2 1, pd .x exV]]) = true := by decide +kernel
example : additive 2 [exV] (add [mul [exFld, exV], mul [num 2 1, pd .x exV]]) = .ok true ∧
    homogeneous 2 [exV] (add [mul [exFld, exV], mul [num 2 1, pd .x exV]]) = .ok true := by decide +kernel

/-- **reject_sound_cancel_across_regions** — `∫_Ω f·v + v²  +  (any other integrals, e.g.
    ∫_Γ x·v − v²)` is rejected: the square on `Ω` is not compensated by the other regions. -/
theorem reject_sound_cancel_across_regions (d : Nat) (v f : String) (k k' : Kind) (dom : String)
    (rest : List (String × E)) (hrest : ∀ p ∈ rest, OpFree p.2 = true) (hne : v ≠ f) :
    isLinear d [sf v k] ((dom, add [mul [sf f k', sf v k], pow (sf v k) (num 2 1)]) :: rest) = .ok false := by
  -- the first integral alone is rejected
  apply reject_sound_any_integral d _ _ (List.forall_mem_singleton.mpr rfl) (List.forall_mem_cons.mpr ⟨rfl, hrest⟩)
    _ List.mem_cons_self
  apply reject_single d v k dom _ rfl 1 (fun _ => 1)
  have hvf : sf v k ≠ sf f k' := fun h => hne (sf.inj h).1
  simp only [mapLeaves, mapLeavesList, ruleFn_cons_self, ruleFn_cons_ne _ _ _ _ hvf, ruleFn_nil, denG, denGSum,
    denGProd, powSem, PD.intLit, alpha, l0, refute_sf, refute_cst, evalAt_mul, evalAt_add, evalAt_pow, evalAt_one, evalAt_C, mul_one,
    one_pow, add_zero]
  norm_num

/-- **lumped_accepts_nonlinear** — counterexample for the variant that adds the integrands of all
    the regions before testing (`isLinearLumped`): it accepts `∫_Ω f·v + v² + ∫_Γ x·v − v²`, which is
    not linear on `Ω`; the model (and the code) rejects it. -/
theorem lumped_accepts_nonlinear :
    isLinearLumped 2 [exV]
        [("Omega", add [mul [exFld, exV], pow exV (num 2 1)]),
         ("Gamma", add [mul [sym "x", exV], mul [num (-1) 1, pow exV (num 2 1)]])] = .ok true ∧
    isLinear 2 [exV]
        [("Omega", add [mul [exFld, exV], pow exV (num 2 1)]),
         ("Gamma", add [mul [sym "x", exV], mul [num (-1) 1, pow exV (num 2 1)]])] = .ok false :=
  ⟨by decide +kernel, reject_sound_cancel_across_regions 2 "v" "f" .h1 .h1 "Omega" _
    (by intro p hp; simp at hp; subst hp; rfl) (by decide +kernel)⟩

/-! ### sums of terms inside one integrand: the integrand is tested as a whole

  The two sides of the comparison are expanded (`RingEq.ringEq` normalises powers of sums and
  products of sums), so non-linear summands that cancel do not matter: `(v+f)² − v² − f²` is
  accepted, and `accept_sound_opfree` applies to it. -/

/-- the integrand `(v + f)² − v² − f²` (three summands, each of them non-linear in `v` or constant) -/
def exCancel : E :=
  add [pow (add [exV, exFld]) (num 2 1), mul [num (-1) 1, pow exV (num 2 1)], mul [num (-1) 1, pow exFld (num 2 1)]]

/-- **cancelling_terms_accepted** — the model accepts `(v+f)² − v² − f²` (= 2 f v); the variant that
    tests the summands one by one (`isLinearTermwise`) rejects it. -/
theorem cancelling_terms_accepted :
    isLinear 2 [exV] [("Omega", exCancel)] = .ok true ∧
    isLinearTermwise 2 [exV] [("Omega", exCancel)] = .ok false :=
  ⟨by decide +kernel, by decide +kernel⟩

/-- **cancelling_terms_linear** — and the acceptance is right: in every differential ring
    `(v+f)² − v² − f²` is additive and homogeneous in `v` (instance of `accept_sound_opfree`). -/
theorem cancelling_terms_linear (S : DRing K) (lg : Bool) :
    denG S 2 lg (subst ([exV].zip (sumVals [exV])) exCancel) 0 0
      = denG S 2 lg (subst ([exV].zip (freshList "l#" [exV])) exCancel) 0 0
        + denG S 2 lg (subst ([exV].zip (freshList "r#" [exV])) exCancel) 0 0 ∧
    denG S 2 lg (subst ([exV].zip (mulVals [exV])) exCancel) 0 0
      = S.cst "alpha#" * denG S 2 lg (subst ([exV].zip (freshList "l#" [exV])) exCancel) 0 0 :=
  accept_sound_opfree S 2 lg [exV] exCancel (by intro a ha; simp at ha; subst ha; rfl) (by decide +kernel)
    (by decide +kernel) (by decide +kernel)

/-! the fixed corpus of the harness, on the model -/
example : isBilinear 2 [exU1, exU2] [exV1, exV2]
    [("Omega", mul [exU1, add [exU1, mul [num (-1) 1, exU2]], exV1])] = .ok false := by decide +kernel
example : isLinear 2 [exV1, exV2] [("Omega", mul [exFld, pow (add [exV1, mul [num (-1) 1, exV2]]) (num 2 1)])]
    = .ok false := by decide +kernel
example : isLinear 2 [exV] [("Omega", mul [sym "x", sym "y"])] = .ok false := by decide +kernel
example : isBilinear 2 [exU] [exV] [("Omega", mul [sym "x", exV])] = .ok false := by decide +kernel
example : isBilinear 2 [exU1, exU2] [exV1, exV2]
    [("Omega", mul [sym "x", exFld, add [exU1, mul [num (-1) 1, exU2]], exV1]), ("Gamma", mul [exU2, exV2])]
    = .ok true := by decide +kernel
example : isLinearShared 2 [exU1, exU2]
    [("Omega", mul [exU1, exU2])] = .ok false := by decide +kernel
example : isLinear 2 [exV] [("Omega", add [mul [exFld, exV], num 1 1]), ("Gamma", add [mul [sym "x", exV], num (-1) 1])]
    = .ok false := by decide +kernel
example : isLinear 2 [exV] [("Omega", add [mul [exV, add [exV, sym "x"]], mul [num (-1) 1, pow exV (num 2 1)]])]
    = .ok true := by decide +kernel
example : isBilinear 2 [exU] [exV]
    [("Omega", add [mul [exU, exV, add [num 1 1, mul [sym "y", exV]]], mul [num (-1) 1, sym "y", exU, pow exV (num 2 1)]])]
    = .ok true := by decide +kernel
example : isLinearLumped 2 [exV] [("Omega", mul [exFld, exV]), ("Gamma", pow exV (num 2 1))] = .ok false := by decide +kernel
example : isLinearTermwise 2 [exV] [("Omega", add [mul [exFld, exV], mul [sym "x", exV]])] = .ok true := by decide +kernel

/-! floating-point coefficients reach the model as their exact rational values (`num p q`): here
    `(x + 0.1)·v + 0.2·v` with the binary values of `0.1` and `0.2`; the comparison is exact -/
example : isLinear 2 [exV]
    [("Omega", add [mul [add [sym "x", num 3602879701896397 36028797018963968], exV],
                    mul [num 3602879701896397 18014398509481984, exV]])] = .ok true := by decide +kernel
example : isLinear 2 [exV]
    [("Omega", add [mul [add [sym "x", num 3602879701896397 36028797018963968], exV],
                    num 3602879701896397 18014398509481984])] = .ok false := by decide +kernel

end Sympde.Linear

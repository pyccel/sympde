/-
  C02 (continued) — soundness of the remaining operator constructors of
  sympde/calculus/core.py with respect to the classical meaning `denG` (Sem/DenG.lean), each for
  ALL expressions (structural induction).  Helpers: Lemmas/Calc2.lean.
-/
import SympdeModel.Props.C02
namespace Sympde
open E Calc
open DRing (sumN sumN_congr)

variable {K : Type} [CommRing K] [Algebra ℚ K]

/-- **Rot / Hessian (purely linear `eval`)**: whatever `Rot(e)` / `Hessian(e)` returns — sum rule,
    numeric factors pulled out, zero on numbers — denotes the rot / Hessian of `e`.
    Generic form: any operator `o` whose meaning is a linear functional `L` of the component
    function of its argument. -/
theorem linEval_sound_gen (S : DRing K) (d : Nat) (lg : Bool) (o : Op1)
    (L : (Nat → Nat → K) → Nat → Nat → K) (hL : LinFun S lg L) (hop : ∀ a, OpIs S d lg o L a)
    (e : E) (hnd : NonDegG S d lg e) (r : E) (h : linEval o e = .ok r) :
    ∀ i j, denG S d lg r i j = denG S d lg (op1 o e) i j := by
  induction e using E.induction generalizing r with
  | add as ih =>
    rw [linEval_add] at h
    exact addBranch_sound S d lg o L hL (linEval o) as (fun a _ => hop a) (hop _) (hop _) hnd
      (fun a ha r hr => ih a ha ((NonDegG_add S d lg as).mp hnd a ha) r hr) r h
  | mul as _ =>
    rw [linEval_mul] at h
    exact mulLin_sound S d lg o L hL as (hop _) (hop _) hnd r h
  | _ =>
    simp only [linEval] at h
    exact leafBranch_sound S d lg o L hL _ (hop _) hnd r h

theorem rotEval_sound (S : DRing K) (d : Nat) (lg : Bool) (e : E) (hnd : NonDegG S d lg e)
    (r : E) (h : linEval .rot e = .ok r) :
    ∀ i j, denG S d lg r i j = denG S d lg (op1 .rot e) i j :=
  linEval_sound_gen S d lg .rot _ (rot_lin S lg) (rot_is S d lg) e hnd r h

theorem hessianEval_sound (S : DRing K) (d : Nat) (lg : Bool) (e : E) (hnd : NonDegG S d lg e)
    (r : E) (h : linEval .hessian e = .ok r) :
    ∀ i j, denG S d lg r i j = denG S d lg (op1 .hessian e) i j :=
  linEval_sound_gen S d lg .hessian _ (hess_lin S lg) (hess_is S d lg) e hnd r h

/-- **Curl**: whatever `Curl(e)` returns — sum rule, numeric factors pulled out, zero on numbers,
    curl(grad u) = 0 — denotes the curl of `e` (3D vector curl, scalar curl otherwise). -/
theorem curlEval_sound (S : DRing K) (d : Nat) (lg : Bool) (e : E) (hnd : NonDegG S d lg e)
    (r : E) (h : curlEval d e = .ok r) :
    ∀ i j, denG S d lg r i j = denG S d lg (op1 .curl e) i j := by
  induction e using E.induction generalizing r with
  | add as ih =>
    rw [curlEval_add] at h
    exact addBranch_sound S d lg .curl _ (curl_lin S d lg) (curlEval d) as
      (fun a _ => curl_is S d lg a) (curl_is S d lg _) (curl_is S d lg _) hnd
      (fun a ha r hr => ih a ha ((NonDegG_add S d lg as).mp hnd a ha) r hr) r h
  | mul as _ =>
    rw [curlEval_mul] at h
    exact mulLin_sound S d lg .curl _ (curl_lin S d lg) as (curl_is S d lg _) (curl_is S d lg _) hnd r h
  | op1 o a _ =>
    cases o with
    | grad =>
      simp only [curlEval] at h
      split at h
      · exact numOrNode_sound S d lg .curl _ (curl_lin S d lg) _ (curl_is S d lg _) hnd _ id r h
      · injection h with h; subst h
        intro i j
        rw [denG_zero, curl_grad_any]
    | _ =>
      simp only [curlEval] at h
      exact leafBranch_sound S d lg .curl _ (curl_lin S d lg) _ (curl_is S d lg _) hnd r h
  | _ =>
    simp only [curlEval] at h
    exact leafBranch_sound S d lg .curl _ (curl_lin S d lg) _ (curl_is S d lg _) hnd r h

/-- **Dot / Cross / Inner / Outer / Convect constructors**: distribution over the terms of sums
    in both arguments, extraction of scalar factors (of constants only from the differentiated
    argument of Convect), `cross(a, a) = 0` and the zero short-cuts preserve the meaning.
    Hypotheses: `BilOK` (in every term the factors flagged commutative are genuine scalars; the
    terms of a sum are all matrices or none), not needed for the second argument of Convect;
    `NonDegG` of the second argument for Convect only (its `is_number` short-cut). -/
theorem mkBilin_sound (S : DRing K) (d : Nat) (lg : Bool) (k : BK) (a1 a2 : E)
    (h1 : BilOK d a1 = true) (h2 : k = .convect ∨ BilOK d a2 = true)
    (hnd : k = .convect → NonDegG S d lg a2)
    (r : E) (h : mkBilin d k a1 a2 = .ok r) :
    ∀ i j, denG S d lg r i j = denG S d lg (op2 k.op a1 a2) i j := by
  unfold mkBilin at h
  refine shortcuts_sound S d lg k a1 a2 hnd _ r h (fun h => ?_)
  cases a1 with
  | add as =>
    intro i j
    have h1' := (BilOK_add d as).mp h1
    rw [splitAdd_sound S d lg i j _ (fun t => denG S d lg (op2 k.op t a2) i j) as
      (fun t ht r hr => mkRight_sound S d lg k t a2 (h1' t ht).1 h2 hnd r hr i j) r h,
      bil_is, denG_add_fun S d lg as, bil_sum_left]
    congr 1
    apply List.map_congr_left
    intro t ht
    rw [bil_is]
    exact bil_flags S d lg k _ _ _ _ (Or.inr (Or.inr (Or.inr ⟨(h1' t ht).2, rfl⟩))) _ _ i j
  | _ =>
    rw [BilOK_nonadd d _ (fun as has => by cases has)] at h1
    exact mkRight_sound S d lg k _ a2 h1 h2 hnd r h

/-- non-vacuity: `dot(2*f*F + G, g*H + x*F)` in 2D satisfies the hypotheses and is expanded -/
example : BilOK 2 (add [mul [num 2 1, sf "f" .h1, vf "F" .h1], vf "G" .h1]) = true
    ∧ BilOK 2 (add [mul [sf "g" .h1, vf "H" .h1], mul [sym "x", vf "F" .h1]]) = true
    ∧ ∃ r, mkBilin 2 .dot (add [mul [num 2 1, sf "f" .h1, vf "F" .h1], vf "G" .h1])
        (add [mul [sf "g" .h1, vf "H" .h1], mul [sym "x", vf "F" .h1]]) = .ok r := by
  refine ⟨by decide, by decide, _, rfl⟩

/-- **Poisson bracket**: whatever `Bracket(a1, a2)` returns — bilinearity, coefficients pulled
    out, the Leibniz rule in both arguments, `[a, a] = 0`, zero on numbers — denotes
    `∂₀a1 ∂₁a2 − ∂₁a1 ∂₀a2`. -/
theorem bracketEval_sound (S : DRing K) (d : Nat) (lg : Bool) (a1 a2 : E)
    (hs1 : Scal d a1 = true) (hs2 : Scal d a2 = true)
    (hnd1 : NonDegG S d lg a1) (hnd2 : NonDegG S d lg a2) :
    ∀ i j, denG S d lg (bracketEval a1 a2) i j = denG S d lg (op2 .bracket a1 a2) i j := by
  intro i j
  rw [bracket_is]
  unfold bracketEval
  split
  · rename_i hn
    rw [denG_zero, brk_short S d lg a1 a2 hnd1 hnd2 (by rw [hn]; rfl)]
  split
  · rename_i he
    rw [denG_zero, brk_short S d lg a1 a2 hnd1 hnd2 (by rw [he]; exact Bool.or_true _)]
  · exact brLeft_sound S d lg a2 hs2 hnd2 a1 hs1 hnd1 i j

/-- non-vacuity: `[2*f*g + h, x*f]` is a pair of scalar expressions without powers -/
example : Scal 2 (add [mul [num 2 1, sf "f" .h1, sf "g" .h1], sf "h" .h1]) = true
    ∧ Scal 2 (mul [sym "x", sf "f" .h1]) = true := by decide

/-- Dot of an admissible argument of rank ≤ 1 with a computed gradient or curl -/
theorem dot_computed (S : DRing K) (d : Nat) (lg : Bool) (a g dt : E) (ha : BilOK d a = true)
    (hra : rank d a ≤ 1) (hg : GI d g) (h : mkBilin d .dot a g = .ok dt) (i j : Nat) :
    denG S d lg dt i j = sumN d (fun k => denG S d lg a k 0 * denG S d lg g k 0) := by
  rw [mkBilin_sound S d lg .dot a g ha (Or.inr (GI_BilOK d g hg).1) (fun h => by cases h) dt h i j]
  exact dot_vec S d lg a g (isMat_of_rank_le d a hra) (GI_BilOK d g hg).2 i j

/-- the product-rule branch of `Laplace.eval` -/
theorem lapProd_sound (S : DRing K) (d : Nat) (lg : Bool) (as : List E) (f g : E)
    (hnn : nonNum as = [f, g]) (hsf : Scal d f = true) (hsg : Scal d g = true)
    (hnd : NonDegG S d lg (mul as))
    (lf lg' gf gg dt : E)
    (hlf : ∀ i j, denG S d lg lf i j = denG S d lg (op1 .laplace f) i j)
    (hlg : ∀ i j, denG S d lg lg' i j = denG S d lg (op1 .laplace g) i j)
    (hgf : gradEval d f = .ok gf) (hgg : gradEval d g = .ok gg)
    (hdt : mkBilin d .dot gf gg = .ok dt) :
    ∀ i j, denG S d lg (mul [Calc.mulOf (numCoeffs as),
        add [mul [f, lg'], mul [g, lf], mul [num 2 1, dt]]]) i j
      = denG S d lg (op1 .laplace (mul as)) i j := by
  intro i j
  have hnd' := (NonDegG_mul S d lg as).mp hnd
  have hm := mem_of_filter_eq (show as.filter _ = [f, g] from hnn)
  obtain ⟨gif, sf⟩ := gradEval_spec S d lg f hsf (hnd' f (hm f (by simp))) gf hgf
  obtain ⟨gig, sg⟩ := gradEval_spec S d lg g hsg (hnd' g (hm g (by simp))) gg hgg
  have hdot : denG S d lg dt i j = denG S d lg (op2 .dot (op1 .grad f) (op1 .grad g)) i j := by
    rw [dot_computed S d lg gf gg dt (GI_BilOK d gf gif).1 gif.rk gig hdt i j,
      dot_vec S d lg _ _ (isMat_of_rank_le d _ (GI_grad d f hsf).rk)
        (isMat_of_rank_le d _ (GI_grad d g hsg).rk) i j]
    simp only [sf, sg]
  rw [← pullNum_sound S d lg .laplace _ (lap_lin S d lg) as (lap_is S d lg _) (lap_is S d lg _) hnd i j,
    denG_mul2, denG_mul2, hnn]
  congr 1
  rw [show Calc.mulOf [f, g] = mul [f, g] from rfl,
    laplace_mul S d lg f g (Scal_rank d f hsf) (Scal_rank d g hsg)
      (Scal_free S d lg f hsf) (Scal_free S d lg g hsg) i j]
  simp only [denG, denGSum, denGProd] at hlf hlg hdot ⊢
  rw [hlf, hlg, hdot]

/-- **Laplace**: whatever `Laplace(e)` returns — sum rule, numeric factors pulled out, zero on
    numbers, and `laplace(f g) = f laplace g + g laplace f + 2 grad f . grad g` — denotes the
    (entry-wise) Laplacian of `e`.  `LapOK`: wherever the product rule fires (exactly two
    non-numeric factors, both flagged commutative) the two factors are genuine scalars `Scal`
    (the flag alone does not guarantee it: open finding C02-vector-commutative-factor). -/
theorem laplaceEval_sound (S : DRing K) (d : Nat) (lg : Bool) (e : E)
    (hok : LapOK d e = true) (hnd : NonDegG S d lg e) (r : E) (h : laplaceEval d e = .ok r) :
    ∀ i j, denG S d lg r i j = denG S d lg (op1 .laplace e) i j := by
  induction e using E.induction generalizing r with
  | add as ih =>
    rw [laplaceEval_add] at h
    exact addBranch_sound S d lg .laplace _ (lap_lin S d lg) (laplaceEval d) as
      (fun a _ => lap_is S d lg a) (lap_is S d lg _) (lap_is S d lg _) hnd
      (fun a ha r hr => ih a ha ((LapOK_add d as).mp hok a ha)
        ((NonDegG_add S d lg as).mp hnd a ha) r hr) r h
  | mul as ih =>
    have hnd' := (NonDegG_mul S d lg as).mp hnd
    have hfall := pullNum_sound S d lg .laplace _ (lap_lin S d lg) as (lap_is S d lg _) (lap_is S d lg _) hnd
    simp only [laplaceEval, laplaceEvalListE_eq] at h
    split at h
    · exact numOrNode_sound S d lg .laplace _ (lap_lin S d lg) _ (lap_is S d lg _) hnd _
        (fun hb => by simpa [PD.isNumber] using hb) r h
    · rw [zip_map_filter (fun x => !Calc.isNumber x)] at h
      split at h
      · rename_i f lf g lg' hps
        have hnn : nonNum as = [f, g] := by
          have := congrArg (List.map (·.1)) hps
          rwa [map_fst_pair] at this
        rw [show List.filter (fun x => !Calc.isNumber x) as = nonNum as from rfl, hnn] at hps
        injection hps with h1 hps
        injection hps with h2 _
        injection h1 with _ hlf
        injection h2 with _ hlg
        have hm := mem_of_filter_eq (show as.filter _ = [f, g] from hnn)
        split at h
        · injection h with h; subst h; exact hfall
        · rename_i hcomm
          have hcomm' : (isComm d f && isComm d g) = true := by simpa using hcomm
          have hS : Scal d f = true ∧ Scal d g = true := by
            simpa only [LapOK, hnn, hcomm', Bool.not_true, Bool.false_or, Bool.and_eq_true] using hok
          obtain ⟨lf1, hlf1, h⟩ := bind_ok h
          obtain ⟨lg1, hlg1, h⟩ := bind_ok h
          obtain ⟨gf, hgf, h⟩ := bind_ok h
          obtain ⟨gg, hgg, h⟩ := bind_ok h
          obtain ⟨dt, hdt, h⟩ := bind_ok h
          injection h with h; subst h
          exact lapProd_sound S d lg as f g hnn hS.1 hS.2 hnd lf1 lg1 gf gg dt
            (ih f (hm f (by simp)) (Scal_LapOK d f hS.1) (hnd' f (hm f (by simp))) lf1 (hlf ▸ hlf1))
            (ih g (hm g (by simp)) (Scal_LapOK d g hS.2) (hnd' g (hm g (by simp))) lg1 (hlg ▸ hlg1))
            hgf hgg hdt
      · injection h with h; subst h; exact hfall
  | _ =>
    simp only [laplaceEval] at h
    exact leafBranch_sound S d lg .laplace _ (lap_lin S d lg) _ (lap_is S d lg _) hnd r h

/-- the Laplacian of a scalar expression: `Scal` implies `LapOK` -/
theorem laplaceEval_sound_scal (S : DRing K) (d : Nat) (lg : Bool) (e : E)
    (hs : Scal d e = true) (hnd : NonDegG S d lg e) (r : E) (h : laplaceEval d e = .ok r) :
    ∀ i j, denG S d lg r i j = denG S d lg (op1 .laplace e) i j :=
  laplaceEval_sound S d lg e (Scal_LapOK d e hs) hnd r h

/-- non-vacuity: `laplace(3*f*g + 2*F)` in 2D satisfies `LapOK`, and the product rule fires -/
example : LapOK 2 (add [mul [num 3 1, sf "f" .undef, sf "g" .undef], mul [num 2 1, vf "F" .undef]]) = true
    ∧ ∃ r, laplaceEval 2 (add [mul [num 3 1, sf "f" .undef, sf "g" .undef],
        mul [num 2 1, vf "F" .undef]]) = .ok r := by
  refine ⟨by decide, _, rfl⟩

/-- the product-rule branch of `Div.eval` (vector `F`, scalar `f`, in either order) -/
theorem divProd_sound (S : DRing K) (d : Nat) (lg : Bool) (as : List E) (F f : E)
    (hnn : nonNum as = [F, f] ∨ nonNum as = [f, F])
    (hv : isVecLike F = true) (hsf : Scal d f = true) (hnd : NonDegG S d lg (mul as))
    (gf dt : E) (hgf : gradEval d f = .ok gf) (hdt : mkBilin d .dot F gf = .ok dt) :
    ∀ i j, denG S d lg (mul [Calc.mulOf (numCoeffs as), add [mul [f, op1 .div F], dt]]) i j
      = denG S d lg (op1 .div (mul as)) i j := by
  intro i j
  have hfm : f ∈ as := by
    have : f ∈ nonNum as := by rcases hnn with h | h <;> rw [h] <;> simp
    exact (List.mem_filter.mp this).1
  obtain ⟨hFb, hFr⟩ := isVecLike_spec d F hv
  obtain ⟨gif, sf⟩ := gradEval_spec S d lg f hsf ((NonDegG_mul S d lg as).mp hnd f hfm) gf hgf
  have hX : Calc.mulOf (nonNum as) = mul [F, f] ∨ Calc.mulOf (nonNum as) = mul [f, F] :=
    hnn.imp (fun h => by rw [h]; rfl) (fun h => by rw [h]; rfl)
  rw [← div_pullNum S d lg as hnd i j, denG_mul2, denG_mul2]
  congr 1
  rw [div_prod S d lg F f _ hX hFr hsf i j, denG_add2, denG_mul2,
    dot_computed S d lg F gf dt hFb (by omega) gif hdt i j, Scal_free S d lg f hsf i j]
  simp only [sf, denG_grad_scal S d lg f hsf]

/-- the `div(a × b)` branch of `Div.eval` (3D) -/
theorem divCross_sound (S : DRing K) (lg : Bool) (a b : E)
    (hBa : BilOK 3 a = true) (hBb : BilOK 3 b = true) (hra : rank 3 a ≤ 1) (hrb : rank 3 b ≤ 1)
    (hnda : NonDegG S 3 lg a) (hndb : NonDegG S 3 lg b)
    (ca cb t1 t2 : E) (hca : curlEval 3 a = .ok ca) (hcb : curlEval 3 b = .ok cb)
    (ht1 : mkBilin 3 .dot b ca = .ok t1) (ht2 : mkBilin 3 .dot a cb = .ok t2) :
    ∀ i j, denG S 3 lg (add [t1, mul [num (-1) 1, t2]]) i j
      = denG S 3 lg (op1 .div (op2 .cross a b)) i j := by
  intro i j
  rw [div_cross, denG_add2, denG_mul2,
    dot_computed S 3 lg b ca t1 hBb hrb (curlEval_GI 3 a ca hca) ht1 i j,
    dot_computed S 3 lg a cb t2 hBa hra (curlEval_GI 3 b cb hcb) ht2 i j]
  simp only [curlEval_sound S 3 lg a hnda ca hca, curlEval_sound S 3 lg b hndb cb hcb]
  have hm1 : denG S 3 lg (num (-1) 1) i j = -1 := by simp [denG]
  rw [hm1]
  ring

/-- **Div**: whatever `Div(e)` returns — sum rule, numeric factors pulled out, zero on numbers,
    `div(f F) = f div F + F . grad f` (either order of the factors, numeric coefficient kept),
    `div(a × b) = b . curl a − a . curl b`, `div(curl a) = 0` — denotes the divergence of `e`.
    `DivOK` (decidable): terms of a sum have the same tensor rank; the factor next to the
    vector in the product rule is a genuine scalar; the Cross / Curl rules fire in 3D only, on
    admissible (`BilOK`) arguments of rank ≤ 1.  `NonDegD`: `NonDegG` of the expression, of
    the terms of its sums and of the arguments of a rewritten Cross. -/
theorem divEval_sound (S : DRing K) (d : Nat) (lg : Bool) (e : E)
    (hok : DivOK d e = true) (hnd : NonDegD S d lg e) (r : E) (h : divEval d e = .ok r) :
    ∀ i j, denG S d lg r i j = denG S d lg (op1 .div e) i j := by
  have key : ∀ e r, NonDegD S d lg e → leafBranch .div e = .ok r →
      ∀ i j, denG S d lg r i j = denG S d lg (op1 .div e) i j :=
    fun e r hnd h => leafBranch_sound S d lg .div _ (div_lin S d lg (rank d e)) e
      (div_is S d lg e _ rfl) (NonDegD_G S d lg e hnd) r h
  induction e using E.induction generalizing r with
  | add as ih =>
    rw [divEval_add] at h
    simp only [DivOK, DivOKList_iff, Bool.and_eq_true, List.all_eq_true, beq_iff_eq] at hok
    simp only [NonDegD] at hnd
    have hrest : OpIs S d lg .div (divSem S d lg (rank d (add as))) (addOf (as.filter (fun x => !hasF x))) := by
      refine addOf_cases (P := OpIs S d lg .div (divSem S d lg (rank d (add as)))) _ ?_
        (fun x hx => div_is S d lg _ _ (hok.2 x (List.mem_filter.mp hx).1)) ?_
      · intro i j
        rw [div_is S d lg E.zero _ rfl i j,
          (div_lin S d lg _).const _ (fun k a b => by rw [denG_zero]; exact Di_zero S lg k),
          (div_lin S d lg _).const _ (fun k a b => by rw [denG_zero]; exact Di_zero S lg k)]
      · intro x y rest hm
        refine div_is S d lg _ _ ?_
        rw [hm]
        exact hok.2 x (mem_of_filter_eq hm x (by simp))
    exact addBranch_sound S d lg .div _ (div_lin S d lg (rank d (add as))) (divEval d) as
      (fun a ha => div_is S d lg _ _ (hok.2 a ha)) (div_is S d lg _ _ rfl) hrest hnd.1
      (fun a ha r hr => ih a ha (hok.1 a ha) (NonDegDList_mem S d lg as hnd.2 a ha) r hr) r h
  | mul as _ =>
    have hndG : NonDegG S d lg (mul as) := hnd
    have hfall := div_pullNum S d lg as hndG
    simp only [divEval] at h
    split at h
    · exact numOrNode_sound S d lg .div _ (div_lin S d lg _) _ (div_is S d lg _ _ rfl) hndG _
        (fun hb => by simpa [PD.isNumber] using hb) r h
    · split at h
      · rename_i a b hnn
        have hnn' : nonNum as = [a, b] := hnn
        have hmm : Calc.mulOf (nonNum as) = mul [a, b] := by rw [hnn']; rfl
        rw [hmm] at hfall
        simp only [DivOK, hnn'] at hok
        -- the product rule where it applies and succeeds, the plain node otherwise
        have rule : ∀ (F f : E), (nonNum as = [F, f] ∨ nonNum as = [f, F]) → isVecLike F = true →
            Scal d f = true →
            (match gradEval d f with
              | .ok gf => (match mkBilin d .dot F gf with
                           | .ok dt => .ok (mul [Calc.mulOf (numCoeffs as), add [mul [f, op1 .div F], dt]])
                           | .error _ => .ok (mul [Calc.mulOf (numCoeffs as), op1 .div (mul [a, b])]))
              | .error _ => .ok (mul [Calc.mulOf (numCoeffs as), op1 .div (mul [a, b])]) : Except Err E)
              = Except.ok r →
            ∀ i j, denG S d lg r i j = denG S d lg (op1 .div (mul as)) i j := by
          intro F f hFf hv hsf h
          split at h
          · rename_i gf hgf
            split at h
            · rename_i dt hdt
              injection h with h; subst h
              exact divProd_sound S d lg as F f hFf hv hsf hndG gf dt hgf hdt
            · injection h with h; subst h; exact hfall
          · injection h with h; subst h; exact hfall
        split at h
        · rename_i hva
          simp only [hva, if_true] at hok
          exact rule a b (Or.inl hnn') hva hok h
        · rename_i hva
          simp only [hva, Bool.false_eq_true, if_false] at hok
          split at h
          · rename_i hvb
            simp only [hvb, if_true] at hok
            exact rule b a (Or.inr hnn') hvb hok h
          · injection h with h; subst h
            exact hfall
      · injection h with h; subst h
        exact hfall
  | op2 o a b _ _ =>
    cases o with
    | cross =>
      simp only [NonDegD] at hnd
      simp only [divEval] at h
      split at h
      · injection h with h; subst h; intro i j; rfl
      · rename_i hF
        simp only [DivOK, hF, Bool.false_or, Bool.and_eq_true, beq_iff_eq, decide_eq_true_eq] at hok
        obtain ⟨⟨⟨⟨hd, hBa⟩, hBb⟩, hra⟩, hrb⟩ := hok
        subst hd
        obtain ⟨ca, hca, h⟩ := bind_ok h
        obtain ⟨cb, hcb, h⟩ := bind_ok h
        obtain ⟨t1, ht1, h⟩ := bind_ok h
        obtain ⟨t2, ht2, h⟩ := bind_ok h
        injection h with h; subst h
        exact divCross_sound S lg a b hBa hBb hra hrb hnd.1 hnd.2 ca cb t1 t2 hca hcb ht1 ht2
    | _ => simp only [divEval] at h; exact key _ r hnd h
  | op1 o a _ =>
    cases o with
    | curl =>
      simp only [divEval] at h
      split at h
      · injection h with h; subst h; intro i j; rfl
      · rename_i hF
        simp only [DivOK, hF, Bool.false_or, beq_iff_eq] at hok
        subst hok
        injection h with h; subst h
        intro i j
        rw [denG_zero, div_curl_zero]
    | _ => simp only [divEval] at h; exact key _ r hnd h
  | _ => simp only [divEval] at h; exact key _ r hnd h

/-- non-vacuity: `div(2*f*F + cross(F, G) + curl(G) + 3*G)` in 3D: all rules fire -/
example : DivOK 3 (add [mul [num 2 1, sf "f" .h1, vf "F" .h1], op2 .cross (vf "F" .h1) (vf "G" .h1),
      op1 .curl (vf "G" .h1), mul [num 3 1, vf "G" .h1]]) = true
    ∧ ∃ r, divEval 3 (add [mul [num 2 1, sf "f" .h1, vf "F" .h1], op2 .cross (vf "F" .h1) (vf "G" .h1),
      op1 .curl (vf "G" .h1), mul [num 3 1, vf "G" .h1]]) = .ok r := by
  refine ⟨by decide, _, rfl⟩

/-- non-vacuity of the `a == b` short-cuts (decidable now that `E.beq` is structural):
    `cross(F, F) = 0` and `[f*g, f*g] = 0` -/
example : mkBilin 3 .cross (vf "F" .h1) (vf "F" .h1) = .ok E.zero
    ∧ bracketEval (mul [sf "f" .h1, sf "g" .h1]) (mul [sf "f" .h1, sf "g" .h1]) = E.zero :=
  ⟨rfl, rfl⟩

/-- non-vacuity of the non-degeneracy side conditions (trivial without negative / symbolic powers;
    with `f**(-1)` they ask `f` to be invertible): `curl(2*F + grad f)`, `rot(3*f + x)`,
    and the `NonDegD` of the Div example above -/
example (S : DRing K) :
    NonDegG S 3 false (add [mul [num 2 1, vf "F" .h1], op1 .grad (sf "f" .h1)])
    ∧ (∃ r, curlEval 3 (add [mul [num 2 1, vf "F" .h1], op1 .grad (sf "f" .h1)]) = .ok r)
    ∧ NonDegG S 2 false (add [mul [num 3 1, sf "f" .h1], sym "x"])
    ∧ (∃ r, linEval .rot (add [mul [num 3 1, sf "f" .h1], sym "x"]) = .ok r)
    ∧ NonDegD S 3 false (add [mul [num 2 1, sf "f" .h1, vf "F" .h1],
        op2 .cross (vf "F" .h1) (vf "G" .h1), op1 .curl (vf "G" .h1), mul [num 3 1, vf "G" .h1]]) := by
  refine ⟨by simp [NonDegG, NonDegGList], ⟨_, rfl⟩, by simp [NonDegG, NonDegGList], ⟨_, rfl⟩, ?_⟩
  simp [NonDegD, NonDegDList, NonDegG, NonDegGList]

end Sympde

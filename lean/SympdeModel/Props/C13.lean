/-
  C13 — joining patches partitions their faces and mirrors the logical domain.
  Property theorems only (model: Model/Topology.lean, helper lemmas: Lemmas/Topology.lean).

  Common hypotheses (all decidable on a concrete layout):
    NamesOk ps      the patch names are pairwise different (sympde identifies objects by name)
    ConnsOk ps cs   no face is used by two connections, no ordered patch pair is declared twice,
                    the declared patches are among `ps`
-/
import SympdeModel.Lemmas.Topology
import SympdeModel.Lemmas.TopologySub
import SympdeModel.Lemmas.TopologyCorners
namespace Sympde.Topo

/-- **Partition.**  For every list of at least two n-cube patches (any dimension, plain or mapped) and
    every list of connections on which `Domain.join` returns a domain `d`:
    the interiors of `d` are exactly the patches, and the external boundary of `d` together with
    the two sides of all interfaces of `d` is a permutation of the list of all faces of all
    patches — a list without repetition.  Hence every face is either exactly one side of exactly
    one interface or in the external boundary, never both (`join_partition_face`). -/
theorem join_partition {ps : List Patch} {cs : List Conn} {name : String} {d : Dom}
    (hj : join ps cs name = .ok d) (hlen : 2 ≤ ps.length) (hn : NamesOk ps) (hok : ConnsOk ps cs) :
    d.interiors.Perm ps ∧
    (d.boundary ++ ifaceSides d.ifaces).Perm (allFaces ps) ∧ (allFaces ps).Nodup := by
  obtain ⟨_, hi, hb, _⟩ := join_fields hj hlen
  refine ⟨hi ▸ unionPatches_perm hn, ?_, allFaces_nodup hn.nodup⟩
  rw [hb, join_ifaces hj hlen hok, ifaceSides_map_toIface]
  have hin := joined_in ((join_eq_ok hlen).mp hj).2.1 hok
  exact (List.Perm.append_right _ (externalFaces_perm hn _ fun g hg => ((mem_allFaces ps g).mp (hin g hg)).1)).trans
    (complement_append_perm (allFaces_nodup hn.nodup) hok.1 hin)

/-- the per-face reading of `join_partition` -/
theorem join_partition_face {ps : List Patch} {cs : List Conn} {name : String} {d : Dom}
    (hj : join ps cs name = .ok d) (hlen : 2 ≤ ps.length) (hn : NamesOk ps) (hok : ConnsOk ps cs)
    (p : Patch) (hp : p ∈ ps) (f : Face) (hf : f ∈ p.faces) :
    (f ∈ d.boundary ∧ (ifaceSides d.ifaces).count f = 0) ∨
    (f ∉ d.boundary ∧ (ifaceSides d.ifaces).count f = 1) := by
  obtain ⟨_, hperm, hnd⟩ := join_partition hj hlen hn hok
  -- `f` occurs exactly once in the partition
  have hc : d.boundary.count f + (ifaceSides d.ifaces).count f = 1 := by
    rw [← List.count_append, hperm.count_eq, List.count_eq_one_of_mem hnd (List.mem_flatMap.mpr ⟨p, hp, hf⟩)]
  have hb := (partition_nodup hn hperm).1
  by_cases h : f ∈ d.boundary
  · rw [List.count_eq_one_of_mem hb h] at hc
    exact Or.inl ⟨h, by omega⟩
  · rw [List.count_eq_zero_of_not_mem h] at hc
    exact Or.inr ⟨h, by omega⟩

/-- nothing else appears: every boundary face and every interface side is a face of a patch -/
theorem join_partition_sub {ps : List Patch} {cs : List Conn} {name : String} {d : Dom}
    (hj : join ps cs name = .ok d) (hlen : 2 ≤ ps.length) (hn : NamesOk ps) (hok : ConnsOk ps cs)
    (f : Face) (hf : f ∈ d.boundary ∨ f ∈ ifaceSides d.ifaces) : f ∈ allFaces ps := by
  obtain ⟨_, hperm, _⟩ := join_partition hj hlen hn hok
  exact hperm.subset (List.mem_append.mpr hf)

/-- **Declared connections.**  The connectivity of the joined domain is, entry by entry and in the
    order of declaration, the list of declared connections: the k-th interface joins the faces
    named by the k-th connection (minus to minus, plus to plus), is called `minus|plus`, and
    carries the declared orientation (or the default).  In particular each declared connection
    appears exactly once. -/
theorem join_declared {ps : List Patch} {cs : List Conn} {name : String} {d : Dom}
    (hj : join ps cs name = .ok d) (hlen : 2 ≤ ps.length) (hok : ConnsOk ps cs) :
    List.Forall₂ (Declares ps (headDim ps) (byIndices cs)) cs d.ifaces ∧ (d.ifaces.map Iface.name).Nodup := by
  obtain ⟨h1, h2⟩ := resolved_spec ((join_eq_ok hlen).mp hj).2.1
  rw [join_ifaces hj hlen hok]
  refine ⟨?_, by rw [List.map_map]; exact hok.2.1⟩
  rw [h1, List.map_map, List.forall₂_map_right_iff]
  exact List.forall₂_same.mpr fun c hc => resolve_declares (h2 c hc)

/-- **Logical mirror.**  When every patch is mapped (and the logical names are as hygienic as the
    physical ones), the joined domain has a logical domain whose structure is the image of the
    physical structure under "strip the mapping": interiors, external boundary face by face,
    connectivity interface by interface in the same order with the same orientation and the
    names `logical minus|logical plus`; every physical face / interface points to its twin; the
    logical domain is itself a partition of the faces of the logical patches; and the
    multi-patch mapping sends each logical patch to the mapping of its physical patch. -/
theorem logical_mirror {ps : List Patch} {cs : List Conn} {name : String} {d : Dom}
    (hj : join ps cs name = .ok d) (hlen : 2 ≤ ps.length) (hn : NamesOk ps) (hok : ConnsOk ps cs)
    (hm : ∀ p ∈ ps, p.mapping.isSome) (hln : LNamesOk ps) (hlc : LConnsOk ps cs) :
    ∃ L : DomCore, d.logical = some L ∧ L.name = d.name ∧
      L.interiors.Perm (d.interiors.map Patch.strip) ∧
      L.boundary.Perm (d.boundary.map Face.strip) ∧
      L.ifaces = d.ifaces.map Iface.strip ∧
      (∀ i ∈ d.ifaces, i.logical = some i.strip) ∧
      (∀ f ∈ d.boundary, f.logical = some f.strip) ∧
      (L.boundary ++ ifaceSides L.ifaces).Perm (allFaces (ps.map Patch.strip)) ∧
      (allFaces (ps.map Patch.strip)).Nodup ∧
      d.mappings = d.interiors.map (fun p => (p.lname, p.mapping.getD "")) := by
  obtain ⟨_, _, hfin⟩ := (join_eq_ok hlen).mp hj
  obtain ⟨hname, hi, hb, hf⟩ := join_fields hj hlen
  obtain ⟨hpi, hperm, _⟩ := join_partition hj hlen hn hok
  have hall : (unionPatches ps).all (fun e => e.mapping.isSome) = true := by
    rw [List.all_eq_true]; intro p hp
    exact hm p ((unionPatches_perm hn).subset hp)
  obtain ⟨lifs, hl, hlog, hmap⟩ := finishJoin_mapped hfin hall
  -- faces of the joined domain lie on mapped patches of `ps`
  have hbps : ∀ f ∈ d.boundary, f.patch ∈ ps := fun f hf' =>
    ((mem_allFaces ps f).mp (hperm.subset (List.mem_append_left _ hf'))).1
  have hblog : ∀ f ∈ d.boundary, f.logical = some f.strip := fun f hf' =>
    face_logical_of_mapped (hm _ (hbps f hf'))
  have hilog : ∀ i ∈ d.ifaces, i.logical = some i.strip := by
    intro i hi'
    rw [join_ifaces hj hlen hok] at hi'
    obtain ⟨c, hc, rfl⟩ := List.mem_map.mp hi'
    have := hok.2.2 c hc
    exact iface_logical_of_mapped (hm _ this.1) (hm _ this.2)
  have hlifs : lifs = d.ifaces.map Iface.strip :=
    Except.ok.inj (hl.symm.trans (hf ▸ logicalIfaces_eq d.ifaces [] hilog (by
      rw [join_ifaces hj hlen hok, List.map_map]
      exact hlc)))
  have hbnd : (unionFaces (d.boundary.filterMap Face.logical)).Perm (d.boundary.map Face.strip) := by
    rw [filterMap_eq_map_of _ _ _ hblog]
    exact unionFaces_map_perm hln _ (fun f hf' => strip_patch_mem (hbps f hf'))
      (fun x hx y hy e => hln.face_inj (hbps x hx) (hbps y hy) e)
      (partition_nodup hn hperm).1
  refine ⟨_, hlog, hname.symm, ?_, ?_, hlifs, hilog, hblog, ?_, ?_, ?_⟩
  · rw [hi]; exact unionPatches_perm (hln.perm (unionPatches_perm hn))
  · rw [← hb]; exact hbnd
  · simp only
    rw [hlifs, ifaceSides_map_strip, allFaces_strip]
    rw [← hb]
    refine (List.Perm.append_right _ hbnd).trans ?_
    rw [← List.map_append]
    exact hperm.map _
  · exact allFaces_nodup hln.nodup
  · rw [hmap, hi]
    exact mappingDict_eq _ (hln.perm (unionPatches_perm hn)).lnames

/-- **Order invariance.**  Declaring the same connections in any other order gives the same
    domain: `join` succeeds again, with the same name, interiors, external boundary (as lists)
    and mapping, a connectivity that is a permutation of the first one, and a logical domain
    with the same interiors and boundary (its connectivity is covered by `logical_mirror`,
    which applies to both results).  The hypotheses carry over to the permuted list. -/
theorem join_order_invariant {ps : List Patch} {cs cs' : List Conn} {name : String} {d : Dom}
    (hj : join ps cs name = .ok d) (hlen : 2 ≤ ps.length) (hok : ConnsOk ps cs) (hp : cs'.Perm cs) :
    ∃ d', join ps cs' name = .ok d' ∧ ConnsOk ps cs' ∧
      d'.name = d.name ∧ d'.interiors = d.interiors ∧ d'.boundary = d.boundary ∧
      d'.ifaces.Perm d.ifaces ∧ d'.mappings = d.mappings ∧
      d'.logical.isSome = d.logical.isSome ∧
      ∀ L L', d.logical = some L → d'.logical = some L' →
        L'.name = L.name ∧ L'.interiors = L.interiors ∧ L'.boundary = L.boundary := by
  obtain ⟨hdim, hr, hfin⟩ := (join_eq_ok hlen).mp hj
  obtain ⟨_, _, _, hf⟩ := join_fields hj hlen
  obtain ⟨hr', hperm⟩ := resolved_perm hr hp
  have hok' := hok.perm hperm
  have hifs : (buildIfaces (resolved ps cs')).Perm (buildIfaces (resolved ps cs)) := by
    rw [buildIfaces_eq _ hok.2.1, buildIfaces_eq _ hok'.2.1]
    exact hperm.map _
  rw [← externalFaces_perm_joined _ (hperm.flatMap_right RConn.sides)] at hfin
  obtain ⟨d', hd', h1, h2, h3, h4, h5, h6, h7⟩ := finishJoin_perm hfin hifs
  refine ⟨d', (join_eq_ok hlen).mpr ⟨hdim, hr', hd'⟩, hok', h1, h2, h3, ?_, h5, h6, h7⟩
  rw [h4, hf]; exact hifs

/-- **One mapping applied to a joined plain domain** (`F(Omega)`, MappedDomain).  The mapped domain
    has `Omega` as its logical domain and is `Omega` with every patch mapped by `F`: the same
    interiors, the same external boundary face by face, the same interfaces (same names, same
    sides) with the same orientation; stripping the mapping gives back exactly the patches and
    faces of `Omega`. -/
theorem mapped_domain_mirror {ps : List Patch} {cs : List Conn} {name : String} {d : Dom}
    (hj : join ps cs name = .ok d) (hlen : 2 ≤ ps.length) (hn : NamesOk ps) (hok : ConnsOk ps cs)
    (hplain : ∀ p ∈ ps, p.mapping = none) (m : String) :
    ∃ X, applyMapping m d = .ok X ∧ X.logical = some d.toDomCore ∧ X.name = mappedName m d.name ∧
      X.interiors.Perm (d.interiors.map (Patch.mapBy m)) ∧
      X.boundary.Perm (d.boundary.map (Face.mapBy m)) ∧
      X.ifaces.Perm (d.ifaces.map (fun e => ⟨e.name, e.minus.mapBy m, e.plus.mapBy m, e.ornt⟩)) ∧
      (∀ p ∈ d.interiors, (p.mapBy m).strip = p) ∧ (∀ f ∈ d.boundary, (f.mapBy m).strip = f) ∧
      (∀ i ∈ d.ifaces, (i.minus.mapBy m).strip = i.minus ∧ (i.plus.mapBy m).strip = i.plus) := by
  obtain ⟨hpi, hperm, hnd⟩ := join_partition hj hlen hn hok
  have hplainI : ∀ p ∈ d.interiors, p.mapping = none := fun p hp => hplain p (hpi.subset hp)
  have hany : d.interiors.any (fun p => p.mapping.isSome) = false := by
    rw [List.any_eq_false]; intro p hp; simp [hplainI p hp]
  have hfplain : ∀ f ∈ allFaces ps, f.patch.mapping = none := fun f hf' =>
    hplain _ ((mem_allFaces ps f).mp hf').1
  have hbps : ∀ f ∈ d.boundary, f ∈ allFaces ps := fun f hf' => hperm.subset (List.mem_append_left _ hf')
  have hsps : ∀ f ∈ ifaceSides d.ifaces, f ∈ allFaces ps := fun f hf' => hperm.subset (List.mem_append_right _ hf')
  have hnm := namesOk_mapBy hn hplain m
  have hX : applyMapping m d = .ok
      { name := mappedName m d.name
        interiors := unionPatches (d.interiors.map (Patch.mapBy m))
        boundary := unionFaces (d.boundary.map (Face.mapBy m))
        ifaces := (sortBy Iface.name d.ifaces).foldl
          (fun acc e => connSet acc ⟨e.name, e.minus.mapBy m, e.plus.mapBy m, e.ornt⟩) []
        logical := some d.toDomCore
        mappings := d.interiors.map (fun p => (p.lname, m)) } := by
    simp only [applyMapping, hany, Bool.false_eq_true, if_false]
  refine ⟨_, hX, rfl, rfl, ?_, ?_, ?_, ?_, ?_, ?_⟩
  · exact unionPatches_perm (((hpi.map _).map _).nodup_iff.mpr hnm)
  · refine unionFaces_map_perm hnm _ (fun f hf' => List.mem_map_of_mem ((mem_allFaces ps f).mp (hbps f hf')).1)
      (fun x hx y hy e => ?_) (partition_nodup hn hperm).1
    have := congrArg Face.strip e
    rwa [face_mapBy_strip (hfplain x (hbps x hx)), face_mapBy_strip (hfplain y (hbps y hy))] at this
  · show (List.foldl _ [] (sortBy Iface.name d.ifaces)).Perm _
    have hnames : (d.ifaces.map Iface.name).Nodup := (join_declared hj hlen hok).2
    rw [← List.foldl_map (f := fun e : Iface => (⟨e.name, e.minus.mapBy m, e.plus.mapBy m, e.ornt⟩ : Iface))
      (g := connSet)]
    rw [foldl_connSet_fresh _ [] (by
      simp only [List.map_map]
      exact ((sortBy_perm _ _).map _).nodup_iff.mpr hnames)]
    simpa using (sortBy_perm Iface.name d.ifaces).map _
  · intro p hp; exact mapBy_strip (hplainI p hp) m
  · intro f hf'; exact face_mapBy_strip (hfplain f (hbps f hf')) m
  · intro i hi
    exact ⟨face_mapBy_strip (hfplain _ (hsps _ (minus_side hi))) m,
      face_mapBy_strip (hfplain _ (hsps _ (plus_side hi))) m⟩

/-- **Face lookup on a patch.**  `patch.get_boundary(axis, ext)` returns exactly the face
    `(patch, axis, ext)` when `axis < dim` and `ext = ±1`, and raises ValueError otherwise … -/
theorem getBoundary_spec (p : Patch) (a : Nat) (e : Int) :
    p.getBoundary (some a) e =
      if a < p.dim ∧ (e = -1 ∨ e = 1) then .ok ⟨p, a, e⟩ else .error .valueError := by
  simp only [Patch.getBoundary, normAxis, bind, Except.bind]
  exact findFace_boundary p a e

/-- … `axis=None` is accepted for lines only and means axis 0 … -/
theorem getBoundary_none (p : Patch) (e : Int) :
    p.getBoundary none e = if p.dim = 1 then p.getBoundary (some 0) e else .error .assertionError := by
  by_cases h : p.dim = 1
  · simp [Patch.getBoundary, normAxis, h, bind, Except.bind]
  · simp [Patch.getBoundary, normAxis, h, bind, Except.bind]

/-- … and the face found is called Γ_{2·axis + (ext+3)/2}: the numbering of `NCubeInterior`. -/
theorem getBoundary_gamma (p : Patch) (a : Nat) (e : Int) (he : e = -1 ∨ e = 1) :
    (⟨p, a, e⟩ : Face).gamma = "\\Gamma_" ++ toString (2 * a + ((e + 3) / 2).toNat) := by
  rcases he with rfl | rfl <;> simp [Face.gamma, gammaIndex]

/-- **Face lookup on a domain.**  `domain.get_boundary(axis, ext)` returns the first member of the
    external boundary with this axis and side (nothing before it matches), and raises ValueError
    exactly when the external boundary has no such face. -/
theorem domain_getBoundary_spec (d : DomCore) (a : Nat) (e : Int) :
    (∀ f, d.getBoundary (some a) e = .ok f →
        ∃ pre post, d.boundary = pre ++ f :: post ∧ f.axis = a ∧ f.ext = e ∧
          ∀ g ∈ pre, ¬(g.axis = a ∧ g.ext = e)) ∧
    (d.getBoundary (some a) e = .error .valueError ↔ ∀ f ∈ d.boundary, ¬(f.axis = a ∧ f.ext = e)) := by
  simp only [DomCore.getBoundary, normAxis, bind, Except.bind, findFace]
  cases hfind : d.boundary.find? (fun f => f.ext == e && f.axis == a) with
  | none =>
    have hn := List.find?_eq_none.mp hfind
    exact ⟨fun f hf => (nomatch hf), fun _ f hf hc => hn f hf (by simp [hc.1, hc.2]), fun _ => rfl⟩
  | some g =>
    obtain ⟨hp, pre, post, hsplit, hpre⟩ := List.find?_eq_some_iff_append.mp hfind
    simp only [Bool.and_eq_true, beq_iff_eq] at hp
    refine ⟨fun f hf => ?_, fun h => (nomatch h), fun h => absurd ⟨hp.2, hp.1⟩ (h g (by simp [hsplit]))⟩
    cases hf
    exact ⟨pre, post, hsplit, hp.2, hp.1, fun g' hg' hc => by simpa [hc.1, hc.2] using hpre g' hg'⟩

/-- on a joined domain the face found is a face of a patch that belongs to no interface -/
theorem join_getBoundary_external {ps : List Patch} {cs : List Conn} {name : String} {d : Dom}
    (hj : join ps cs name = .ok d) (hlen : 2 ≤ ps.length) (hn : NamesOk ps) (hok : ConnsOk ps cs)
    (a : Nat) (e : Int) (f : Face) (h : d.toDomCore.getBoundary (some a) e = .ok f) :
    f ∈ allFaces ps ∧ f.axis = a ∧ f.ext = e ∧ f ∉ ifaceSides d.ifaces := by
  obtain ⟨pre, post, hs, h1, h2, _⟩ := (domain_getBoundary_spec d.toDomCore a e).1 f h
  have hmem : f ∈ d.boundary := by rw [hs]; simp
  obtain ⟨_, hperm, _⟩ := join_partition hj hlen hn hok
  exact ⟨hperm.subset (List.mem_append_left _ hmem), h1, h2, (partition_nodup hn hperm).2.2 f hmem⟩

/-- **The layouts of the property satisfy the hypotheses.**  For every grid (or chain) of n-cubes
    in dimension 1..3 — any number of patches along each axis, any axes closed periodically
    (with at least two patches along a closed axis), plain or mapped patches with pairwise
    different `|`-free names, any orientation declared (or omitted) per connection that is valid
    for the dimension — every duplicate-free selection of the geometric connections (the `+a`
    face of a patch with the `-a` face of its neighbour), in any order, satisfies `ConnsOk`, and
    `Domain.join` succeeds on it. -/
theorem grid_connections_ok (g : Grid) (hg : GridOk g) (hlen : 2 ≤ g.patches.length)
    (cs : List Conn) (hsel : GridSel g cs) (name : String) :
    NamesOk g.patches ∧ ConnsOk g.patches cs ∧ ∃ d, join g.patches cs name = .ok d := by
  have hne : g.patches ≠ [] := List.ne_nil_of_length_pos (by omega)
  exact ⟨hg.names, connsOk_grid hg hsel hne, grid_join_ok hg hlen hsel name⟩

/-- … and, when the logical names are hygienic too, the hypotheses of `logical_mirror`. -/
theorem grid_connections_ok_logical (g : Grid) (hg : GridOk g) (hl : GridOkL g) (hlen : 2 ≤ g.patches.length)
    (cs : List Conn) (hsel : GridSel g cs) : LNamesOk g.patches ∧ LConnsOk g.patches cs := by
  have hne : g.patches ≠ [] := List.ne_nil_of_length_pos (by omega)
  exact ⟨hl.lnames, connsOkL_grid hg hl hsel hne⟩

/-- the partition theorem without side conditions, for every grid and every selection of its
    geometric connections -/
theorem grid_partition (g : Grid) (hg : GridOk g) (hlen : 2 ≤ g.patches.length)
    (cs : List Conn) (hsel : GridSel g cs) (name : String) :
    ∃ d, join g.patches cs name = .ok d ∧ d.interiors.Perm g.patches ∧
      (d.boundary ++ ifaceSides d.ifaces).Perm (allFaces g.patches) ∧ (allFaces g.patches).Nodup ∧
      d.ifaces.length = cs.length := by
  obtain ⟨hn, hok, d, hd⟩ := grid_connections_ok g hg hlen cs hsel name
  obtain ⟨h1, h2, h3⟩ := join_partition hd hlen hn hok
  refine ⟨d, hd, h1, h2, h3, ?_⟩
  exact (join_declared hd hlen hok).1.length_eq.symm

/-- summary of the structure theorems in the form used by `subdomain_spec` -/
theorem join_wellformed {ps : List Patch} {cs : List Conn} {name : String} {d : Dom}
    (hj : join ps cs name = .ok d) (hlen : 2 ≤ ps.length) (hn : NamesOk ps) (hok : ConnsOk ps cs)
    (hself : NoSelf ps cs) : WF ps d := by
  obtain ⟨hdims, _, _⟩ := (join_eq_ok hlen).mp hj
  obtain ⟨h1, h2, _⟩ := join_partition hj hlen hn hok
  have hifs := join_ifaces hj hlen hok
  refine ⟨hn, hlen, h1, h2, ?_, ?_, ?_, hdims⟩
  · rw [hifs, List.map_map]; exact hok.2.1
  · intro i hi; rw [hifs] at hi
    obtain ⟨c, _, rfl⟩ := List.mem_map.mp hi; rfl
  · intro i hi; rw [hifs] at hi
    obtain ⟨c, hc, rfl⟩ := List.mem_map.mp hi
    exact hself c hc

/-- **Sub-domain extraction.**  Let `d` be a joined domain (hypotheses of `join_partition`, no patch
    joined to itself) and `S` a non-empty duplicate-free tuple of patch names.
    * `S` = all patches, or the domain's own name is in `S`: the domain itself is returned.
    * otherwise `get_subdomain(S)` returns a domain called `S₀|S₁|…` whose interiors are exactly
      the selected patches, whose connectivity is exactly the set of interfaces of `d` with both
      sides in the selection, and whose boundary is — without repetition — exactly the set of
      faces of the selected patches that are not a side of one of these interfaces: i.e. it is
      the layout made of the selected patches with the connections among them, every other
      face (external in `d`, or joined to a patch outside the selection) being boundary. -/
theorem subdomain_spec {ps : List Patch} {cs : List Conn} {name : String} {d : Dom}
    (hj : join ps cs name = .ok d) (hlen : 2 ≤ ps.length) (hn : NamesOk ps) (hok : ConnsOk ps cs)
    (hself : NoSelf ps cs) (S : List String) (hS : S.Nodup) (hne : S ≠ [])
    (hsub : ∀ s ∈ S, s ∈ ps.map Patch.name) :
    (S.length = ps.length ∨ name ∈ S → d.getSubdomain (.tup S) = .ok .self) ∧
    (S.length ≠ ps.length → name ∉ S →
      ∃ sd, d.getSubdomain (.tup S) = .ok (.dom sd) ∧ sd.name = nameOf S ∧
        sd.interiors.Perm (ps.filter (fun p => S.contains p.name)) ∧
        sd.ifaces.Perm (d.ifaces.filter (fun i => S.contains i.mname && S.contains i.pname)) ∧
        sd.boundary.Nodup ∧
        ∀ f, f ∈ sd.boundary ↔
          f ∈ allFaces (ps.filter (fun p => S.contains p.name)) ∧ f ∉ ifaceSides sd.ifaces) := by
  have w := join_wellformed hj hlen hn hok hself
  have hname := (join_fields hj hlen).1
  have hlenI : d.interiors.length = ps.length := w.ints.length_eq
  have hSN : ∀ s ∈ S, s ∈ d.interiors.map Patch.name := fun s hs =>
    (w.ints.map Patch.name).mem_iff.mpr (hsub s hs)
  have hnotsingle : ∀ p, d.interiors ≠ [p] := by
    intro p hp; rw [hp] at hlenI; simp at hlenI; omega
  have hunfold := getSubdomain_tup d S hS hne hSN hnotsingle
  constructor
  · intro h
    rw [hunfold, hname]
    have : (S.length == (d.interiors.map Patch.name).length || S.contains name) = true := by
      rcases h with h | h
      · simp [h, hlenI]
      · simp [h]
    rw [if_pos this]
  · intro h1 h2
    rw [hunfold, hname]
    have : (S.length == (d.interiors.map Patch.name).length || S.contains name) = false := by
      simp [h1, h2, hlenI]
    rw [if_neg (by rw [this]; simp)]
    -- run the outer loop
    have hinv0 : Inv ps d S [] ⟨idict0 d, [], []⟩ none :=
      ⟨w.idict0_keys, fun k i => by simp [w.mem_idict0], fun i => by simp, rfl⟩
    obtain ⟨prev', st', hrun, hfin⟩ := subOuter_spec w S hS hSN S [] _ none (by simp) hinv0
    simp only [hrun, Except.bind]
    cases prev' with
    | none => exact absurd hfin.prev hne
    | some pd =>
      obtain ⟨_, p2, p3, p4, p5, p6, p7⟩ := hfin.prev
      simp only
      have hifs : ∀ i, i ∈ st'.ifs ↔ i ∈ d.ifaces ∧ i.mname ∈ S ∧ i.pname ∈ S := by
        intro i; rw [hfin.ifs i]
        constructor
        · rintro ⟨a, b, c, _⟩; exact ⟨a, b, c⟩
        · rintro ⟨a, b, c⟩; exact ⟨a, b, c, Or.inl b⟩
      obtain ⟨f1, f2⟩ := foldl_connSet_spec st'.ifs pd.ifaces (by
        rw [p2]; simp only [List.nil_append]
        intro a ha b hb h
        exact w.iface_inj ((hifs a).mp ha).1 ((hifs b).mp hb).1 h) (by rw [p2]; simp)
      have hmemI : ∀ i, i ∈ List.foldl connSet pd.ifaces st'.ifs ↔ i ∈ d.ifaces ∧ i.mname ∈ S ∧ i.pname ∈ S := by
        intro i; rw [f2 i, p2, hifs i]; simp
      refine ⟨_, rfl, p5, ?_, ?_, p7, ?_⟩
      · -- interiors
        show pd.interiors.Perm _
        rw [List.perm_ext_iff_of_nodup p6 (List.Nodup.filter _ hn.nodup)]
        intro p; rw [p3 p, List.mem_filter]; simp
      · show (List.foldl connSet pd.ifaces st'.ifs).Perm _
        rw [List.perm_ext_iff_of_nodup f1 (List.Nodup.filter _ (List.Nodup.of_map _ w.inames))]
        intro i; rw [hmemI i, List.mem_filter]; simp
      · intro f
        show f ∈ pd.boundary ↔ _ ∧ f ∉ ifaceSides (List.foldl connSet pd.ifaces st'.ifs)
        rw [p4 f, mem_allFaces, mem_ifaceSides]
        simp only [List.mem_filter, List.contains_eq_mem, decide_eq_true_eq]
        constructor
        · rintro ⟨hfa, hfn, hcase⟩
          have hfa' := (mem_allFaces ps f).mp hfa
          refine ⟨⟨⟨hfa'.1, hfn⟩, hfa'.2⟩, ?_⟩
          rintro ⟨j, hj', hfj⟩
          obtain ⟨hjd, hjm, hjp⟩ := (hmemI j).mp hj'
          rcases hcase with hb | ⟨i, hi, ⟨rfl, hp⟩ | ⟨rfl, hm⟩⟩
          · exact w.bnd_not_side hb ((mem_ifaceSides _ _).mpr ⟨j, hjd, hfj⟩)
          · rcases hfj with e | e
            · have := (w.side_unique hi hjd).1 e; subst this; exact hp hjp
            · exact (w.side_unique hi hjd).2.2 e
          · rcases hfj with e | e
            · exact (w.side_unique hjd hi).2.2 e.symm
            · have := (w.side_unique hi hjd).2.1 e; subst this; exact hm hjm
        · rintro ⟨⟨⟨hfp, hfn⟩, hfr⟩, hnot⟩
          have hfa : f ∈ allFaces ps := (mem_allFaces ps f).mpr ⟨hfp, hfr⟩
          refine ⟨hfa, hfn, ?_⟩
          rcases List.mem_append.mp (w.part.mem_iff.mpr hfa) with hb | hs
          · exact Or.inl hb
          · right
            obtain ⟨i, hi, hfi⟩ := (mem_ifaceSides _ _).mp hs
            refine ⟨i, hi, ?_⟩
            rcases hfi with rfl | rfl
            · left; refine ⟨rfl, fun hp => hnot ⟨i, (hmemI i).mpr ⟨hi, hfn, hp⟩, Or.inl rfl⟩⟩
            · right; refine ⟨rfl, fun hm => hnot ⟨i, (hmemI i).mpr ⟨hi, hm, hfn⟩, Or.inr rfl⟩⟩

/-- a single patch is returned "as it was before being joined": all its faces are boundary again -/
theorem subdomain_single {ps : List Patch} {cs : List Conn} {name : String} {d : Dom}
    (hj : join ps cs name = .ok d) (hlen : 2 ≤ ps.length) (hn : NamesOk ps) (hok : ConnsOk ps cs)
    (hself : NoSelf ps cs) (p : Patch) (hp : p ∈ ps) (hne : name ≠ p.name) :
    ∃ sd, d.getSubdomain (.str p.name) = .ok (.dom sd) ∧ d.getSubdomain (.tup [p.name]) = .ok (.dom sd) ∧
      sd.name = p.name ∧ sd.interiors = [p] ∧ sd.ifaces = [] ∧ sd.boundary.Perm p.faces := by
  have w := join_wellformed hj hlen hn hok hself
  have hpI : p ∈ d.interiors := w.ints.mem_iff.mpr hp
  have hstr : d.getSubdomain (.str p.name) = d.getSubdomain (.tup [p.name]) := by
    have hex : ∃ a ∈ d.interiors, a.name = p.name := ⟨p, hpI, rfl⟩
    simp [Dom.getSubdomain, dedupBy, hex]
  obtain ⟨sd, e1, e2, e3, e4, e5, e6⟩ := (subdomain_spec hj hlen hn hok hself [p.name] (List.nodup_singleton _)
    (List.cons_ne_nil _ _) (fun s hs => List.mem_singleton.mp hs ▸ List.mem_map_of_mem hp)).2
    (by simp; omega) (by simpa using hne)
  -- `p` is the only patch of that name, and no interface joins it to itself
  have hfil : ps.filter (fun q => [p.name].contains q.name) = [p] := by
    refine List.perm_singleton.mp ((List.perm_ext_iff_of_nodup (List.Nodup.filter _ hn.nodup)
      (List.nodup_singleton p)).mpr fun q => ?_)
    simp only [List.mem_filter, List.contains_eq_mem, List.mem_singleton, decide_eq_true_eq]
    exact ⟨fun ⟨hq, e⟩ => hn.inj hq hp e, fun e => e.symm ▸ ⟨hp, rfl⟩⟩
  have hifs : sd.ifaces = [] := by
    rw [List.filter_eq_nil_iff.mpr fun i hi => by simpa using fun a b => w.noself i hi (a.trans b.symm)] at e4
    exact List.perm_nil.mp e4
  refine ⟨sd, hstr.trans e1, e1, by simpa [nameOf] using e2, List.perm_singleton.mp (hfil ▸ e3), hifs, ?_⟩
  rw [List.perm_ext_iff_of_nodup e5 (faces_nodup p)]
  intro f
  rw [e6 f, hfil, hifs]
  simp [allFaces, ifaceSides]

/-- the 2D form of `join_wellformed` -/
theorem join_wellformed2 {ps : List Patch} {cs : List Conn} {name : String} {d : Dom}
    (hj : join ps cs name = .ok d) (hlen : 2 ≤ ps.length) (hn : NamesOk ps) (hok : ConnsOk ps cs)
    (hself : NoSelf ps cs) (h2 : ∀ p ∈ ps, p.dim = 2) (ho : OrntPM ps cs) : WF2 ps d := by
  have hifs := join_ifaces hj hlen hok
  refine ⟨join_wellformed hj hlen hn hok hself, h2, ?_, ?_⟩
  · intro i hi; rw [hifs] at hi
    obtain ⟨r, hr, rfl⟩ := List.mem_map.mp hi
    obtain ⟨c, _, hc⟩ := resolved_from ((join_eq_ok hlen).mp hj).2.1 hr
    exact (resolve_eq_ok.mp hc).2.2.2.2.2.2.2
  · intro i hi; rw [hifs] at hi
    obtain ⟨c, hc, rfl⟩ := List.mem_map.mp hi
    exact ho c hc

/-- **Corner groups, layouts without doubly joined corners.**  In a 2D layout in which no patch
    corner has both of its faces joined (chains, rings, several chains side by side, …), with
    orientations ±1, `get_shared_corners` returns exactly one group per interface `i` and end
    `e = ±1` of it, and that group consists of exactly two patch corners: the corner of the minus
    patch between `i.minus` and its face `(other axis, e)`, and the corner of the plus patch
    between `i.plus` and its face `(other axis, e·ornt)` — for `ornt = 1` the two patch corners
    that sit on the same lattice point. -/
theorem corners_simple {ps : List Patch} {cs : List Conn} {name : String} {d : Dom}
    (hj : join ps cs name = .ok d) (hlen : 2 ≤ ps.length) (hn : NamesOk ps) (hok : ConnsOk ps cs)
    (hself : NoSelf ps cs) (h2 : ∀ p ∈ ps, p.dim = 2) (ho : OrntPM ps cs) (hndc : NoDoubleCorner d)
    (hne : d.ifaces ≠ []) :
    ∃ gs, d.toDomCore.corners = .ok gs ∧
      (∀ g ∈ gs, ∃ i ∈ d.ifaces, ∃ e, (e = 1 ∨ e = -1) ∧ IsPair g (cornerM i e) (cornerP i e)) ∧
      (∀ i ∈ d.ifaces, ∀ e, (e = 1 ∨ e = -1) → ∃ g ∈ gs, IsPair g (cornerM i e) (cornerP i e)) :=
  (join_wellformed2 hj hlen hn hok hself h2 ho).corners_simple_core hndc hne

/-- **Corner groups of chains.**  For every chain or ring of squares along axis 0 (any length ≥ 2,
    any hygienic names, plain or mapped, orientations ±1 or omitted) and every non-empty
    duplicate-free selection of its connections in any order: `join` succeeds, and
    `get_shared_corners` returns exactly one group per selected connection `x — y = next x` and end
    `e = ±1`: the corner (+1, e) of patch `x` together with the corner (−1, e·ornt) of patch `y`;
    for `ornt = 1` these are the two patch corners on the lattice point shared by `x` and `y`. -/
theorem corners_chain (g : Grid) (hc : ChainOk g) (hlen : 2 ≤ g.patches.length)
    (cs : List Conn) (hsel : GridSel g cs) (hne : cs ≠ []) (name : String) :
    ∃ d gs, join g.patches cs name = .ok d ∧ d.toDomCore.corners = .ok gs ∧
      (∀ grp ∈ gs, ∃ x ∈ g.idxs, ∃ y e, g.mkConn x 0 y ∈ cs ∧ g.next x 0 = some y ∧ (e = 1 ∨ e = -1) ∧
        IsPair grp (gcorner (g.patch x) 1 e) (gcorner (g.patch y) (-1) (e * orntInt (g.orntOf x 0)))) ∧
      (∀ x ∈ g.idxs, ∀ y e, g.mkConn x 0 y ∈ cs → g.next x 0 = some y → (e = 1 ∨ e = -1) →
        ∃ grp ∈ gs, IsPair grp (gcorner (g.patch x) 1 e) (gcorner (g.patch y) (-1) (e * orntInt (g.orntOf x 0)))) := by
  have hg := hc.toGridOk
  have hne' : g.patches ≠ [] := List.ne_nil_of_length_pos (by omega)
  obtain ⟨hn, hok, d, hd⟩ := grid_connections_ok g hg hlen cs hsel name
  obtain ⟨_, R, hspec, hcm⟩ := resolved_grid hg hsel.2 hne'
  have hifs := join_ifaces hd hlen hok
  have hres := fun r => hc.resolved_mem hsel.2 hne' (r := r)
  have h2 : ∀ p ∈ g.patches, p.dim = 2 := by
    intro p hp
    obtain ⟨x, hx, rfl⟩ := List.mem_map.mp hp
    rw [hg.dim x hx, hc.d2]
  have hndc : NoDoubleCorner d := by
    have hax : ∀ f ∈ ifaceSides d.ifaces, f.axis = 0 := by
      intro f hf
      obtain ⟨i, hi, hfi⟩ := (mem_ifaceSides _ _).mp hf
      rw [hifs] at hi
      obtain ⟨r, hr, rfl⟩ := List.mem_map.mp hi
      obtain ⟨x, _, y, _, _, _, rfl⟩ := hres r hr
      rcases hfi with rfl | rfl <;> rfl
    intro f hf g' hg' _
    rw [hax f hf, hax g' hg']
  have hifne : d.ifaces ≠ [] := by
    rw [hifs, hspec]
    cases cs with
    | nil => exact absurd rfl hne
    | cons c cs' => simp
  obtain ⟨gs, hcorn, hsound, hcomplete⟩ := corners_simple hd hlen hn hok (hc.noSelf hsel.2 hne')
    h2 (hc.orntPM_resolved hsel.2 hne') hndc hifne
  refine ⟨d, gs, hd, hcorn, ?_, ?_⟩
  · intro grp hgrp
    obtain ⟨i, hi, e, he, hp⟩ := hsound grp hgrp
    rw [hifs] at hi
    obtain ⟨r, hr, rfl⟩ := List.mem_map.mp hi
    obtain ⟨x, hx, y, hy, _, hcs, rfl⟩ := hres r hr
    exact ⟨x, hx, y, e, hcs, hy, he, hp⟩
  · intro x hx y e hcs hy he
    have hym := (next_spec g x y 0 (by omega) hx hy).1
    obtain ⟨x', hx', a', ha', y', hy', hym', hceq, hrd⟩ := hcm _ hcs
    -- the connection determines (x, 0, y)
    have hmem : (g.mkR x' a' y').toIface ∈ d.ifaces := by
      rw [hifs, hspec, ← hrd]
      exact List.mem_map_of_mem (List.mem_map_of_mem hcs)
    have hsame : g.mkR x' a' y' = g.mkR x 0 y := by
      simp only [Grid.mkConn, Conn.mk.injEq, Side.mk.injEq, Ref.obj.injEq, Option.some.injEq] at hceq
      obtain ⟨⟨e1, e2, _⟩, ⟨e3, _, _⟩, _⟩ := hceq
      have ex := hg.patch_inj hx hx' e1
      have ey := hg.patch_inj hym hym' e3
      subst ex; subst ey; subst e2; rfl
    rw [hsame] at hmem
    exact hcomplete _ hmem e he

/-
  GOAL `corners_grid` (not proved; full statement):

    for every 2D grid `g` (GridOk g, g.d = 2, orientations ±1) and every selection `cs` of its
    connections (GridSel g cs, cs ≠ []): `join` succeeds, `corners` returns `gs`, and `gs` is
    exactly the set of classes of the equivalence on patch corners generated by
        x —(axis a)— y selected  ⇒  corner (a:+1, b:e) of x  ~  corner (a:−1, b:e·ornt) of y     (b = 1 − a)
    restricted to the corners that touch a joined face; for the full grid with orientation +1
    each class is the set of patch corners that sit on one lattice point.

  Proved: `corners_simple` (all layouts in which every class has two members, any orientations)
  and its instance `corners_chain` (all chains and rings).  The classes with three or more members
  (interior vertices: the closed walk `walkC`; T-shaped vertices: forward + backward walk) are
  covered by the correspondence run and by the geometric oracle only; the `example` on the
  2 x 2 grid below is a test, not a theorem.
-/

/-! ### non-vacuity: concrete layouts meet the hypotheses -/

section Examples

/-- `∃ a, x = .ok a ∧ P a` is decided by running `x`: the examples below are closed evaluations of the model. -/
instance decExistsOk {ε α : Type} (x : Except ε α) (P : α → Prop) [DecidablePred P] :
    Decidable (∃ a, x = .ok a ∧ P a) :=
  match x with
  | .ok a => if h : P a then isTrue ⟨a, rfl, h⟩ else isFalse (fun ⟨_, e, hb⟩ => h (by cases e; exact hb))
  | .error _ => isFalse (fun ⟨_, e, _⟩ => by cases e)

instance decExistsDom (x : Except Err SubResult) (P : Dom → Prop) [DecidablePred P] :
    Decidable (∃ sd, x = .ok (.dom sd) ∧ P sd) :=
  match x with
  | .ok (.dom sd) => if h : P sd then isTrue ⟨sd, rfl, h⟩ else isFalse (fun ⟨_, e, hb⟩ => h (by cases e; exact hb))
  | .ok .pyNone => isFalse (fun ⟨_, e, _⟩ => by cases e)
  | .ok .self => isFalse (fun ⟨_, e, _⟩ => by cases e)
  | .error _ => isFalse (fun ⟨_, e, _⟩ => by cases e)

example : NamesOk [exA, exB, exC] ∧ ConnsOk [exA, exB, exC] exConns ∧ LNamesOk [exA, exB, exC] ∧
    LConnsOk [exA, exB, exC] exConns := by
  rw [ConnsOk, LConnsOk, exResolved]; decide +kernel
example : ∃ d, join [exA, exB, exC] exConns "Omega" = .ok d ∧ d.ifaces.length = 2 ∧ d.boundary.length = 8 ∧
    d.logical.isSome = true := by decide +kernel
example : exA.getBoundary (some 1) (-1) = .ok ⟨exA, 1, -1⟩ ∧ (⟨exA, 1, -1⟩ : Face).gamma = "\\Gamma_3" := by decide +kernel


example : GridOk exGrid ∧ GridOkL exGrid ∧ 2 ≤ exGrid.patches.length ∧ exGrid.conns.length = 6 ∧
    GridSel exGrid exGrid.conns.reverse :=
  ⟨⟨by decide +kernel, by decide +kernel, by decide +kernel, by decide +kernel, by decide +kernel, fun x a => by
      simp only [exGrid]; split <;> [exact ⟨_, rfl⟩; (split <;> exact ⟨_, rfl⟩)]⟩,
   ⟨by decide +kernel, by decide +kernel⟩, by decide +kernel, by decide +kernel, by decide +kernel, by decide +kernel⟩

example : NoSelf [exA, exB, exC] exConns ∧ OrntPM [exA, exB, exC] exConns := by
  rw [NoSelf, OrntPM, exResolved]; decide +kernel
example : NamesOk exChain.patches ∧ ConnsOk exChain.patches exChain.conns ∧ NoSelf exChain.patches exChain.conns ∧
    OrntPM exChain.patches exChain.conns :=
  have ⟨hc, hlen, hsel, _⟩ := exChain_ok
  have hne : exChain.patches ≠ [] := List.ne_nil_of_length_pos (by omega)
  have ⟨hn, hok, _⟩ := grid_connections_ok exChain hc.toGridOk hlen _ hsel ""
  ⟨hn, hok, hc.noSelf hsel.2 hne, hc.orntPM_resolved hsel.2 hne⟩
example : ∃ d gs, join exChain.patches exChain.conns "Ring" = .ok d ∧ NoDoubleCorner d ∧ d.ifaces ≠ [] ∧
    d.toDomCore.corners = .ok gs ∧ gs.length = 6 := by
  simp only [exists_and_left]; decide +kernel
example : ChainOk exChain ∧ 2 ≤ exChain.patches.length ∧ GridSel exChain exChain.conns ∧ exChain.conns ≠ [] :=
  exChain_ok
example : ∃ d X, join [exA.strip, exB.strip] [⟨⟨.idx 0, some 0, 1⟩, ⟨.idx 1, some 0, -1⟩, some [-1]⟩] "AB" = .ok d ∧
    applyMapping "F" d = .ok X ∧ X.ifaces.map Iface.ornt = [.o2 (-1)] := by
  simp only [exists_and_left]; decide +kernel
example : ∃ sd, (do let d ← join [exA, exB, exC] exConns "Omega"; d.getSubdomain (.tup ["G(B)", "F(A)"])) = .ok (.dom sd) ∧
    sd.name = "G(B)|F(A)" ∧ sd.ifaces.length = 1 ∧ sd.boundary.length = 6 := by decide +kernel

/-- test (not a theorem): the 2 x 2 grid has one group of four corners (the centre) and four groups of two -/
example : ∃ d gs, join exGrid22.patches exGrid22.conns "G" = .ok d ∧ d.toDomCore.corners = .ok gs ∧
    gs.length = 5 ∧ (gs.map List.length).sum = 12 ∧ (gs.map List.length).contains 4 = true := by
  simp only [exists_and_left]; decide +kernel

end Examples

end Sympde.Topo

/-
  C04 — integrals transform to logical coordinates with the exact volume / surface element.

  The element computed by the model (`IM.element`: square root of the Gram determinant of the
  Jacobian columns kept by `JacobianSymbol(mapping, axis)`) is, in every commutative ring,
    * on a patch with a square Jacobian: det(JᵀJ) = (det J)²  (so the element is |det J|),
    * on a face of a 2-D patch: the squared length of the tangent ∂F/∂x̂_k of the remaining direction,
    * on a face of a 3-D patch and on a surface in ℝ³: |t₁ × t₂|² for the two remaining tangents
      (Lagrange's identity),
    * on a curve / 1-D patch: |F'|²,
  the face (axis, side) is preserved, the kernel is (transformed integrand)·(element of THIS
  region), and an integral over several patches becomes one integral per patch, each with the
  patch's own mapping.  That the transformed integrand has the value of the original one is C03
  (`PB.logical_sound`), combined here in `integral_kernel_sound`.
-/
import SympdeModel.Model.IntegralMap
import SympdeModel.Lemmas.IntegralMap
import SympdeModel.Props.C03
namespace Sympde.IM
open E PD PB
open DRing (sumN)

variable {K : Type} [CommRing K] [Algebra ℚ K]

/-! ### the algebra of the element -/

/-- det(JᵀJ) = det(J)² for a 2×2 Jacobian -/
theorem gram_square2 (a11 a12 a21 a22 : K) :
    (a11 * a11 + a21 * a21) * (a12 * a12 + a22 * a22) - (a11 * a12 + a21 * a22) * (a12 * a11 + a22 * a21)
      = (a11 * a22 - a12 * a21) ^ 2 := by ring

/-- Lagrange: the Gram determinant of two vectors of ℝ³ is the squared norm of their cross product
    (surface element of a face of a 3-D patch and of a surface mapping) -/
theorem gram_cross (t1 t2 t3 u1 u2 u3 : K) :
    (t1 * t1 + t2 * t2 + t3 * t3) * (u1 * u1 + u2 * u2 + u3 * u3)
        - (t1 * u1 + t2 * u2 + t3 * u3) * (u1 * t1 + u2 * t2 + u3 * t3)
      = (t2 * u3 - t3 * u2) ^ 2 + (t3 * u1 - t1 * u3) ^ 2 + (t1 * u2 - t2 * u1) ^ 2 := by ring

/-- det(JᵀJ) = det(J)² for a 3×3 Jacobian -/
theorem gram_square3 (a11 a12 a13 a21 a22 a23 a31 a32 a33 : K) :
    let g (x1 x2 x3 y1 y2 y3 : K) : K := x1 * y1 + x2 * y2 + x3 * y3
    let g11 := g a11 a21 a31 a11 a21 a31; let g12 := g a11 a21 a31 a12 a22 a32; let g13 := g a11 a21 a31 a13 a23 a33
    let g21 := g a12 a22 a32 a11 a21 a31; let g22 := g a12 a22 a32 a12 a22 a32; let g23 := g a12 a22 a32 a13 a23 a33
    let g31 := g a13 a23 a33 a11 a21 a31; let g32 := g a13 a23 a33 a12 a22 a32; let g33 := g a13 a23 a33 a13 a23 a33
    g11 * (g22 * g33 - g23 * g32) + -(g12 * (g21 * g33 - g23 * g31)) + g13 * (g21 * g32 - g22 * g31)
      = (a11 * (a22 * a33 - a23 * a32) - a12 * (a21 * a33 - a23 * a31) + a13 * (a21 * a32 - a22 * a31)) ^ 2 := by
  intro g g11 g12 g13 g21 g22 g23 g31 g32 g33
  simp only [g11, g12, g13, g21, g22, g23, g31, g32, g33, g]
  ring

/-! ### what the model's element denotes -/

/-- interior of a 2-D patch with a 2-component mapping: the Gram determinant is (det J)² -/
theorem detGram_domain2 (S : DRing K) (j : RJac) (hp : j.p = 2) (hl : j.l = 2) (x y : Nat) :
    den S (detGram j (keptCols j.l none)) x y
      = (den S (j.J 0 0) x y * den S (j.J 1 1) x y - den S (j.J 0 1) x y * den S (j.J 1 0) x y) ^ 2 := by
  rw [hl, show keptCols 2 none = [0, 1] from rfl, (den_detGram S j (by omega) x y).2.1, hp]
  simp only [sumN, zero_add]
  exact gram_square2 (den S (j.J 0 0) x y) (den S (j.J 0 1) x y) (den S (j.J 1 0) x y) (den S (j.J 1 1) x y)

/-- interior of a 3-D patch: the Gram determinant is (det J)² -/
theorem detGram_domain3 (S : DRing K) (j : RJac) (hp : j.p = 3) (hl : j.l = 3) (x y : Nat) :
    den S (detGram j (keptCols j.l none)) x y
      = (den S (j.J 0 0) x y * (den S (j.J 1 1) x y * den S (j.J 2 2) x y - den S (j.J 1 2) x y * den S (j.J 2 1) x y)
        - den S (j.J 0 1) x y * (den S (j.J 1 0) x y * den S (j.J 2 2) x y - den S (j.J 1 2) x y * den S (j.J 2 0) x y)
        + den S (j.J 0 2) x y * (den S (j.J 1 0) x y * den S (j.J 2 1) x y - den S (j.J 1 1) x y * den S (j.J 2 0) x y)) ^ 2 := by
  rw [hl, show keptCols 3 none = [0, 1, 2] from rfl, (den_detGram S j (by omega) x y).2.2, hp]
  simp only [sumN, zero_add]
  exact gram_square3 (den S (j.J 0 0) x y) (den S (j.J 0 1) x y) (den S (j.J 0 2) x y)
    (den S (j.J 1 0) x y) (den S (j.J 1 1) x y) (den S (j.J 1 2) x y)
    (den S (j.J 2 0) x y) (den S (j.J 2 1) x y) (den S (j.J 2 2) x y)

/-- interior of a 1-D patch: (F')² -/
theorem detGram_domain1 (S : DRing K) (j : RJac) (hp : j.p = 1) (hl : j.l = 1) (x y : Nat) :
    den S (detGram j (keptCols j.l none)) x y = den S (j.J 0 0) x y ^ 2 := by
  rw [hl, show keptCols 1 none = [0] from rfl, (den_detGram S j (by omega) x y).1, hp]
  simp only [sumN, zero_add, sq]

/-- face `axis = a` of a 2-D patch: the squared length of the tangent in the remaining direction
    `k = 1 - a` — the column that is deleted is the one of the axis, never the other one -/
theorem detGram_face2 (S : DRing K) (j : RJac) (hp : j.p = 2) (hl : j.l = 2) (a : Nat) (ha : a < 2) (x y : Nat) :
    den S (detGram j (keptCols j.l (some a))) x y
      = den S (j.J 0 (1 - a)) x y ^ 2 + den S (j.J 1 (1 - a)) x y ^ 2 := by
  have hk : keptCols 2 (some a) = [1 - a] := by
    match a, ha with
    | 0, _ => rfl
    | 1, _ => rfl
  rw [hl, hk, (den_detGram S j (by omega) x y).1, hp]
  simp only [sumN, zero_add, sq]

/-- a surface in ℝ³ (3 components, 2 logical directions): |∂₁F × ∂₂F|² -/
theorem detGram_surface (S : DRing K) (j : RJac) (hp : j.p = 3) (hl : j.l = 2) (x y : Nat) :
    den S (detGram j (keptCols j.l none)) x y
      = (den S (j.J 1 0) x y * den S (j.J 2 1) x y - den S (j.J 2 0) x y * den S (j.J 1 1) x y) ^ 2
        + (den S (j.J 2 0) x y * den S (j.J 0 1) x y - den S (j.J 0 0) x y * den S (j.J 2 1) x y) ^ 2
        + (den S (j.J 0 0) x y * den S (j.J 1 1) x y - den S (j.J 1 0) x y * den S (j.J 0 1) x y) ^ 2 := by
  rw [hl, show keptCols 2 none = [0, 1] from rfl, (den_detGram S j (by omega) x y).2.1, hp]
  simp only [sumN, zero_add]
  exact gram_cross (den S (j.J 0 0) x y) (den S (j.J 1 0) x y) (den S (j.J 2 0) x y)
    (den S (j.J 0 1) x y) (den S (j.J 1 1) x y) (den S (j.J 2 1) x y)

/-- the two tangents kept on the face `axis = a` of a 3-D patch -/
def faceCols3 : Nat → Nat × Nat
  | 0 => (1, 2)
  | 1 => (0, 2)
  | _ => (0, 1)

/-- face of a 3-D patch: |t₁ × t₂|² for the two remaining tangents -/
theorem detGram_face3 (S : DRing K) (j : RJac) (hp : j.p = 3) (hl : j.l = 3) (a : Nat) (ha : a < 3) (x y : Nat) :
    let k1 := (faceCols3 a).1; let k2 := (faceCols3 a).2
    den S (detGram j (keptCols j.l (some a))) x y
      = (den S (j.J 1 k1) x y * den S (j.J 2 k2) x y - den S (j.J 2 k1) x y * den S (j.J 1 k2) x y) ^ 2
        + (den S (j.J 2 k1) x y * den S (j.J 0 k2) x y - den S (j.J 0 k1) x y * den S (j.J 2 k2) x y) ^ 2
        + (den S (j.J 0 k1) x y * den S (j.J 1 k2) x y - den S (j.J 1 k1) x y * den S (j.J 0 k2) x y) ^ 2 := by
  have hk : keptCols 3 (some a) = [(faceCols3 a).1, (faceCols3 a).2] := by
    match a, ha with
    | 0, _ => rfl
    | 1, _ => rfl
    | 2, _ => rfl
  intro k1 k2
  rw [hl, hk, (den_detGram S j (by omega) x y).2.1, hp]
  simp only [sumN, zero_add]
  exact gram_cross (den S (j.J 0 k1) x y) (den S (j.J 1 k1) x y) (den S (j.J 2 k1) x y)
    (den S (j.J 0 k2) x y) (den S (j.J 1 k2) x y) (den S (j.J 2 k2) x y)

/-- the element is a square root of the Gram determinant wherever the interpretation of
    `x ↦ x^(1/2)` is one; on the end point of a 1-D patch it is 1 -/
theorem element_sq (S : DRing K) (j : RJac) (axis : Option Nat) (x y : Nat)
    (hl : axis = none ∨ j.l ≠ 1)
    (hsqrt : ∀ v : K, S.rpow v (algebraMap ℚ K ((1 : ℚ) / 2)) * S.rpow v (algebraMap ℚ K ((1 : ℚ) / 2)) = v) :
    den S (element j axis) x y * den S (element j axis) x y = den S (detGram j (keptCols j.l axis)) x y := by
  have he : element j axis = pow (detGram j (keptCols j.l axis)) half := by
    unfold element
    rcases hl with h | h
    · subst h; rfl
    · cases axis with
      | none => rfl
      | some a =>
        split
        · rename_i h1 h2; exact absurd (by simpa using h2) h
        · rfl
  rw [he]
  have : den S (pow (detGram j (keptCols j.l axis)) half) x y
      = S.rpow (den S (detGram j (keptCols j.l axis)) x y) (algebraMap ℚ K ((1 : ℚ) / 2)) := by
    simp only [den, half]
    rw [powSem_none S _ _ _ (by simp [intLit])]
    simp
  rw [this, hsqrt]

theorem element_endpoint (j : RJac) (a : Nat) (hl : j.l = 1) : element j (some a) = one := by
  simp [element, hl]

/-! ### the element in terms of the mapping itself -/

/-- the Jacobian the model computes for a mapping is the matrix of the logical derivatives of its
    components (for every mapping given by expressions or left symbolic) -/
theorem jacobian_is_derivative (S : DRing K) (T : FnTable S) (name : String) (F : List E) (l : Nat) (rj : RJac)
    (h : rjacOf name F l = .ok rj) (hint : ∀ f ∈ F, IntPow f = true) (hnd : ∀ f ∈ F, NonDeg S f)
    (i : Nat) (hi : i < F.length) (k : Nat) (hk : k < l) (x y : Nat) :
    den S (rj.J i k) x y = S.D (lc k) (den S F[i] x y) :=
  rjacOf_is_jacobian S T name F l rj h hint hnd i hi k hk x y

/-- **surface element of a face of a 2-D patch = length of the derivative of the mapping along the
    face**: on the face `axis = a` the Gram determinant is `|∂̂_k F|²` with `k = 1 - a` the direction
    that remains — the restriction of the mapping to the face is a curve parametrised by x̂_k -/
theorem face2_element_of_mapping (S : DRing K) (T : FnTable S) (name : String) (F0 F1 : E) (rj : RJac)
    (h : rjacOf name [F0, F1] 2 = .ok rj) (hint : IntPow F0 = true ∧ IntPow F1 = true)
    (hnd : NonDeg S F0 ∧ NonDeg S F1) (a : Nat) (ha : a < 2) (x y : Nat) :
    den S (detGram rj (keptCols rj.l (some a))) x y
      = S.D (lc (1 - a)) (den S F0 x y) ^ 2 + S.D (lc (1 - a)) (den S F1 x y) ^ 2 := by
  obtain ⟨hp, hl, _⟩ := rjacOf_entries name [F0, F1] 2 rj h
  have hi : ∀ f ∈ [F0, F1], IntPow f = true := by
    intro f hf; simp at hf; rcases hf with rfl | rfl
    · exact hint.1
    · exact hint.2
  have hn : ∀ f ∈ [F0, F1], NonDeg S f := by
    intro f hf; simp at hf; rcases hf with rfl | rfl
    · exact hnd.1
    · exact hnd.2
  rw [detGram_face2 S rj (by simpa using hp) hl a ha x y]
  have e0 := rjacOf_is_jacobian S T name [F0, F1] 2 rj h hi hn 0 (by simp) (1 - a) (by omega) x y
  have e1 := rjacOf_is_jacobian S T name [F0, F1] 2 rj h hi hn 1 (by simp) (1 - a) (by omega) x y
  simp only [List.getElem_cons_zero, List.getElem_cons_succ] at e0 e1
  rw [e0, e1]

/-! ### regions, kernels, patches -/

/-- the transformed integral lives on the same face (axis and side) of the logical patch, and its
    kernel is a transformed integrand times the element of that very region -/
theorem transform_spec (P : Patch) (face : Option (Nat × Int)) (body : E) (f : Option (Nat × Int)) (k : E)
    (h : transform P face body = .ok (f, k)) :
    f = face ∧ ∃ rj lb, rjacOf P.mname P.F P.l = .ok rj ∧ bodyOf P body = .ok lb ∧
      k = mul [lb, element rj (face.map (·.1))] := by
  unfold transform at h
  cases h1 : rjacOf P.mname P.F P.l with
  | error e => simp [h1, bind, Except.bind] at h
  | ok rj =>
    cases h2 : bodyOf P body with
    | error e => simp [h1, h2, bind, Except.bind] at h
    | ok lb =>
      simp only [h1, h2, bind, Except.bind] at h
      injection h with h
      injection h with h3 h4
      exact ⟨h3.symm, rj, lb, rfl, rfl, h4.symm⟩

/-- one integral per member, in the same order -/
theorem transformAll_length (ps : List Patch) (ints : List (Nat × Option (Nat × Int) × E)) :
    (transformAll ps ints).length = ints.length := by
  simp [transformAll]

/-- **each patch with its own mapping**: the n-th result is the transformation of the n-th integral
    with the mapping of the patch that integral lives on (and no other) -/
theorem transformAll_own_mapping (ps : List Patch) (ints : List (Nat × Option (Nat × Int) × E)) (n : Nat)
    (hn : n < ints.length) (P : Patch) (hP : ps[(ints[n]).1]? = some P) :
    (transformAll ps ints)[n]'(by simpa [transformAll] using hn)
      = (transform P (ints[n]).2.1 (ints[n]).2.2).map (fun r => (P.lname, r.1, r.2)) := by
  simp only [transformAll, List.getElem_map]
  rcases hx : ints[n] with ⟨pi, face, body⟩
  simp only [hx] at hP ⊢
  simp only [hP]
  cases transform P face body with
  | error e => rfl
  | ok r => obtain ⟨f, k⟩ := r; rfl

/-- **the kernel has the value of the physical integrand times the element** (square mappings):
    C03 for the integrand, the element of the region as factor -/
theorem integral_kernel_sound (SL SP : DRing K) (T : FnTable SL) (m : String) (j : Jac) (F : Nat → E)
    (κs κv : String → Kind) (R : MapRel SL SP m j F κs κv) (body lb : E) (rj : RJac) (axis : Option Nat)
    (hf : Frag j.d κs κv body = true) (hn : NonDeg SP body) (h : logical m j F body = .ok lb) (x y : Nat) :
    den SL (mul [lb, element rj axis]) x y = den SP body x y * den SL (element rj axis) x y := by
  rw [den_mul2, logical_sound SL SP T m j F κs κv R body lb hf hn h x y]

/-- **surface mappings**: the transformed integrand (coordinates replaced by the mapping components)
    has the value of the integrand at the image point, for every derivative-free integrand -/
theorem surface_integrand_sound (SL SP : DRing K) (p : Nat) (hp : p ≤ 3) (F : Nat → E) (R : SurfRel SL SP p F)
    (e r : E) (hf : SFrag e = true) (h : substCoords p F e = .ok r) (x y : Nat) :
    den SL r x y = den SP e x y :=
  substCoords_sound SL SP p hp F R e hf r h x y

end Sympde.IM

/-
  C09 — linearisation of a nonlinear form is its Gateaux derivative.

  Specification: evaluate the integrand over the dual numbers K[ε]/(ε²) (Mathlib's
  `DualNumber K`) with every field u replaced by u + ε·du; by definition of the ring, the
  ε-coefficient of the result is d/dε g(u + ε du) at ε = 0 for polynomial integrands, and for
  elementary functions the first-order Taylor law f(a + εb) = f(a) + ε f'(a) b is used.
  Theorem: the expression returned by the model of `linearize` (`Lin.gd`) denotes exactly that
  coefficient, and the original integrand the ε⁰ coefficient — for every integrand of the
  fragment (fields, vector components, derivatives of any order, sums, n-ary products,
  integer powers, elementary functions) in every differential ring.
-/
import Mathlib.Algebra.DualNumber
import SympdeModel.Model.Linearize
import SympdeModel.Lemmas.PDeriv
namespace Sympde.Lin
open E
open TrivSqZeroExt (inl inr fst snd)

variable {K : Type} [CommRing K] [Algebra ℚ K]

/-- interpretation of the fields' directions: the direction of a scalar field named n is the
    scalar function named `d`, etc. (read off the same structure S) -/
def dual (a b : K) : DualNumber K := inl a + inr b

@[simp] theorem fst_dual (a b : K) : (dual a b).fst = a := by simp [dual]
@[simp] theorem snd_dual (a b : K) : (dual a b).snd = b := by simp [dual]

mutual
/-- evaluation over the dual numbers with u ↦ u + ε du -/
def evalD (S : DRing K) (ds : Dirs) : E → DualNumber K
  | num p q => inl (algebraMap ℚ K ((p : ℚ) / (q : ℚ)))
  | cst s => inl (S.cst s)
  | sym s => inl (S.sym s)
  | sf n _ => match dirOf ds n with
      | some d => dual (S.sf n) (S.sf d)
      | none => inl (S.sf n)
  | idx (vf n _) i => match dirOf ds n with
      | some d => dual (S.vf n i) (S.vf d i)
      | none => inl (S.vf n i)
  | E.add as => evalDSum S ds as
  | E.mul as => evalDProd S ds as
  | pow b (num (Int.ofNat n) 1) => evalD S ds b ^ n
  | fn f a => dual (S.fn f (evalD S ds a).fst) (S.fn' f (evalD S ds a).fst * (evalD S ds a).snd)
  | pd c a => dual (S.D c (evalD S ds a).fst) (S.D c (evalD S ds a).snd)
  | _ => 0
def evalDSum (S : DRing K) (ds : Dirs) : List E → DualNumber K
  | [] => 0
  | a :: as => evalD S ds a + evalDSum S ds as
def evalDProd (S : DRing K) (ds : Dirs) : List E → DualNumber K
  | [] => 1
  | a :: as => evalD S ds a * evalDProd S ds as
end

theorem evalD_sf (S : DRing K) (ds : Dirs) (n : String) (k : Kind) :
    evalD S ds (sf n k) = match dirOf ds n with
      | some d => dual (S.sf n) (S.sf d)
      | none => inl (S.sf n) := rfl

theorem evalD_idx_vf (S : DRing K) (ds : Dirs) (n : String) (k : Kind) (i : Nat) :
    evalD S ds (idx (vf n k) i) = match dirOf ds n with
      | some d => dual (S.vf n i) (S.vf d i)
      | none => inl (S.vf n i) := rfl

theorem evalD_pow_nat (S : DRing K) (ds : Dirs) (b : E) (n : Nat) :
    evalD S ds (pow b (num (Int.ofNat n) 1)) = evalD S ds b ^ n := rfl

theorem evalD_fn (S : DRing K) (ds : Dirs) (f : String) (a : E) :
    evalD S ds (fn f a)
      = dual (S.fn f (evalD S ds a).fst) (S.fn' f (evalD S ds a).fst * (evalD S ds a).snd) := rfl

theorem evalD_pd (S : DRing K) (ds : Dirs) (c : Coord) (a : E) :
    evalD S ds (pd c a) = dual (S.D c (evalD S ds a).fst) (S.D c (evalD S ds a).snd) := rfl

mutual
/-- the fragment: scalar terminal expressions with natural-number literal exponents -/
def Frag : E → Bool
  | num _ _ => true
  | cst _ => true
  | sym _ => true
  | sf _ _ => true
  | idx (vf _ _) _ => true
  | E.add as => FragList as
  | E.mul as => FragList as
  | pow b (num (Int.ofNat _) 1) => Frag b
  | fn f a => knownFn f && Frag a
  | pd _ a => Frag a
  | _ => false
def FragList : List E → Bool
  | [] => true
  | a :: as => Frag a && FragList as
end

theorem FragList_iff (as : List E) : FragList as = as.all Frag := by
  induction as with
  | nil => simp [FragList]
  | cons a as ih => simp [FragList, ih]

theorem gdList_eq (ds : Dirs) (as : List E) : gdList ds as = as.map (gd ds) := by
  induction as with
  | nil => simp [gdList]
  | cons a as ih => simp [gdList, ih]

/-- value of the Leibniz sum: (Π pre) · L(l) with L([]) = 0, L((a,a') :: r) = a'·Π r + a·L(r) -/
def leibVal (S : DRing K) : List (E × E) → K
  | [] => 0
  | (a, da) :: rest =>
      den S da 0 0 * denProd S (rest.map (·.1)) 0 0 + den S a 0 0 * leibVal S rest

theorem denProd_append (S : DRing K) (xs ys : List E) (i j : Nat) :
    denProd S (xs ++ ys) i j = denProd S xs i j * denProd S ys i j := by
  induction xs with
  | nil => simp [denProd]
  | cons x xs ih => simp only [List.cons_append, denProd, ih]; ring

theorem den_leibniz (S : DRing K) (pre : List E) (l : List (E × E)) :
    denSum S (leibniz pre l) 0 0 = denProd S pre 0 0 * leibVal S l := by
  induction l generalizing pre with
  | nil => simp [leibniz, denSum, leibVal]
  | cons p rest ih =>
    obtain ⟨a, da⟩ := p
    simp only [leibniz, denSum, leibVal, den]
    rw [ih (pre ++ [a]), denProd_append, denProd_append, denProd_append]
    simp only [denProd, mul_one]
    ring

theorem evalDSum_eq (S : DRing K) (ds : Dirs) (l : List E)
    (h : ∀ a ∈ l, (evalD S ds a).fst = den S a 0 0 ∧ (evalD S ds a).snd = den S (gd ds a) 0 0) :
    (evalDSum S ds l).fst = denSum S l 0 0 ∧
      (evalDSum S ds l).snd = denSum S (l.map (gd ds)) 0 0 := by
  induction l with
  | nil => exact ⟨rfl, rfl⟩
  | cons a l ih =>
    have ha := h a (by simp)
    have hr := ih (fun x hx => h x (by simp [hx]))
    simp only [evalDSum, List.map, denSum, TrivSqZeroExt.fst_add, TrivSqZeroExt.snd_add]
    rw [ha.1, ha.2, hr.1, hr.2]
    exact ⟨rfl, rfl⟩

theorem evalDProd_eq (S : DRing K) (ds : Dirs) (l : List E)
    (h : ∀ a ∈ l, (evalD S ds a).fst = den S a 0 0 ∧ (evalD S ds a).snd = den S (gd ds a) 0 0) :
    (evalDProd S ds l).fst = denProd S l 0 0 ∧
      (evalDProd S ds l).snd = leibVal S (l.zip (l.map (gd ds))) := by
  induction l with
  | nil => simp [evalDProd, denProd, leibVal]
  | cons a l ih =>
    have ha := h a (by simp)
    have hr := ih (fun x hx => h x (by simp [hx]))
    simp only [evalDProd, List.map, List.zip_cons_cons, denProd, leibVal,
      TrivSqZeroExt.fst_mul, TrivSqZeroExt.snd_mul]
    rw [ha.1, ha.2, hr.1, hr.2, zip_map_fst _ _ (by simp)]
    refine ⟨rfl, ?_⟩
    simp only [smul_eq_mul, MulOpposite.smul_eq_mul_unop, MulOpposite.unop_op]
    ring

theorem den_natPowRule (S : DRing K) (b db : E) (n : Nat) :
    den S (mul [num (Int.ofNat n) 1, pow b (num (Int.ofNat n - 1) 1), db]) 0 0
      = n • (den S b 0 0 ^ n.pred * den S db 0 0) := by
  show den S (num _ 1) 0 0 * (den S (pow b _) 0 0 * (den S db 0 0 * 1)) = _
  rw [den_int, mul_one, nsmul_eq_mul, Int.ofNat_eq_natCast, Int.cast_natCast]
  cases n with
  | zero => rw [Nat.cast_zero, zero_mul, zero_mul]
  | succ k =>
    have : ((k + 1 : Nat) : Int) - 1 = Int.ofNat k := by simp
    rw [den, this]
    rfl

/-- **Gateaux derivative.**  Over the dual numbers with u ↦ u + ε du, the ε⁰ coefficient of the
    integrand is the integrand and the ε¹ coefficient is what the model of `linearize` returns. -/
theorem gateaux_dual (S : DRing K) (T : FnTable S) (ds : Dirs) (e : E) (hf : Frag e = true) :
    (evalD S ds e).fst = den S e 0 0 ∧ (evalD S ds e).snd = den S (gd ds e) 0 0 := by
  induction e using E.induction with
  | num p q => exact ⟨rfl, (den_zero S 0 0).symm⟩
  | cst s => exact ⟨rfl, (den_zero S 0 0).symm⟩
  | sym s => exact ⟨rfl, (den_zero S 0 0).symm⟩
  | sf n k =>
    rw [evalD_sf, gd]
    cases dirOf ds n with
    | none => exact ⟨rfl, (den_zero S 0 0).symm⟩
    | some d => exact ⟨fst_dual _ _, snd_dual _ _⟩
  | idx b i _ =>
    cases b with
    | vf n k =>
      rw [evalD_idx_vf, gd, hasField, gd]
      cases dirOf ds n with
      | none => exact ⟨rfl, (den_zero S 0 0).symm⟩
      | some d => exact ⟨fst_dual _ _, snd_dual _ _⟩
    | _ => cases hf
  | add as ih =>
    rw [Frag, FragList_iff, List.all_eq_true] at hf
    show _ = denSum S as 0 0 ∧ _ = denSum S (gdList ds as) 0 0
    rw [gdList_eq]
    exact evalDSum_eq S ds as fun a ha => ih a ha (hf a ha)
  | mul as ih =>
    rw [Frag, FragList_iff, List.all_eq_true] at hf
    show _ = denProd S as 0 0 ∧ _ = denSum S (leibniz [] (as.zip (gdList ds as))) 0 0
    rw [gdList_eq, den_leibniz, denProd, one_mul]
    exact evalDProd_eq S ds as fun a ha => ih a ha (hf a ha)
  | pow b e ihb _ =>
    cases e with
    | num p q =>
      cases p with
      | ofNat n =>
        match q, hf with
        | 1, hf =>
          have hb := ihb hf
          rw [evalD_pow_nat, TrivSqZeroExt.fst_pow, TrivSqZeroExt.snd_pow, hb.1, hb.2]
          refine ⟨rfl, ?_⟩
          show _ = den S (mul [num (Int.ofNat n) 1, pow b (num (Int.ofNat n - 1) 1), gd ds b]) 0 0
          rw [den_natPowRule, smul_eq_mul]
        | 0, hf => cases hf
        | (q + 2), hf => cases hf
      | negSucc n => cases hf
    | _ => cases hf
  | fn f a iha =>
    simp only [Frag, Bool.and_eq_true] at hf
    have ha := iha hf.2
    rw [evalD_fn, fst_dual, snd_dual, ha.1, ha.2]
    refine ⟨rfl, ?_⟩
    show _ = den S (PD.fnDeriv f a) 0 0 * (den S (gd ds a) 0 0 * 1)
    rw [den_fnDeriv S T f a 0 0 hf.1, mul_one]
  | pd c a iha =>
    have ha := iha hf
    rw [evalD_pd, fst_dual, snd_dual, ha.1, ha.2]
    exact ⟨rfl, rfl⟩
  | _ => cases hf

/-- the ε¹ coefficient alone (the statement used by the check) -/
theorem linearize_is_gateaux (S : DRing K) (T : FnTable S) (ds : Dirs) (e : E) (hf : Frag e = true) :
    den S (gd ds e) 0 0 = (evalD S ds e).snd := (gateaux_dual S T ds e hf).2.symm

/-- an integrand that does not mention the field has derivative zero (so its integral is dropped) -/
theorem gd_const (ds : Dirs) (p : Int) (q : Nat) (s : String) :
    gd ds (num p q) = zero ∧ gd ds (cst s) = zero ∧ gd ds (sym s) = zero := by
  simp [gd]

/-! non-vacuity: g(u) = u² · dx(u),  dg = 2 u du dx(u) + u² dx(du) -/
example : Frag (mul [pow (sf "u" .h1) (num 2 1), pd .x (sf "u" .h1)]) = true := by decide
example : gd [("u", "du")] (mul [pow (sf "u" .h1) (num 2 1), pd .x (sf "u" .h1)])
    = add [mul [mul [num 2 1, pow (sf "u" .h1) (num 1 1), sf "du" .h1], pd .x (sf "u" .h1)],
           mul [pow (sf "u" .h1) (num 2 1), pd .x (sf "du" .h1)]] := by rfl

end Sympde.Lin

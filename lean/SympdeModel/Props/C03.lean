/-
  C03 — pull-back to logical coordinates preserves meaning for every space kind.

  `logical` (Model/Pullback.lean) transcribes `LogicalExpr.eval` + `PullBack` + `Covariant` +
  the lowering of the symbolic Jacobian on terminal physical expressions.  `logical_sound`:
  for every expression of the fragment, every mapping with invertible Jacobian (symbolic or
  given by expressions), every dimension 1..3 and every space kind, the transformed expression
  read at a logical point (fields = the pull-backs) has the value of the original expression
  read at the image point — in every pair of differential rings related by `MapRel`
  (Lemmas/PullbackSem.lean), i.e. for all fields and all points.  Derivatives of any order are
  covered: the statement is closed under `pd`.
-/
import SympdeModel.Lemmas.PullbackSem
namespace Sympde.PB
open E PD
open DRing (sumN)

variable {K : Type} [CommRing K] [Algebra ℚ K]

/-- **Pull-back soundness**, with the invariants that make it closed under derivatives of any
    order: the transformed expression has integer powers only and is non-degenerate (every
    inverted quantity is invertible) whenever the original is. -/
theorem logical_all (SL SP : DRing K) (T : FnTable SL) (m : String) (j : Jac) (F : Nat → E)
    (κs κv : String → Kind) (R : MapRel SL SP m j F κs κv) (e : E) :
    Frag j.d κs κv e = true → NonDeg SP e → ∀ r, logical m j F e = .ok r →
      IntPow r = true ∧ NonDeg SL r ∧ ∀ x y, den SL r x y = den SP e x y := by
  induction e using E.rec
    (motive_2 := fun as => FragList j.d κs κv as = true → NonDegList SP as →
      ∀ rs, logicalList m j F as = .ok rs → IntPowList rs = true ∧ NonDegList SL rs ∧
        (∀ x y, denSum SL rs x y = denSum SP as x y) ∧ (∀ x y, denProd SL rs x y = denProd SP as x y)) with
  | num p q =>
    intro _ _ r h
    simp only [logical] at h; cases h
    exact ⟨rfl, trivial, fun x y => rfl⟩
  | cst s =>
    intro _ _ r h
    simp only [logical] at h; cases h
    exact ⟨rfl, trivial, fun x y => by simp only [den, R.cst_eq]⟩
  | sym s =>
    intro hf _ r h
    simp only [Frag, Bool.not_eq_true'] at hf
    simp only [logical] at h
    have other : (∀ i, physIdx s = some i → j.d ≤ i) →
        IntPow (sym s) = true ∧ NonDeg SL (sym s) ∧ ∀ x y, den SL (sym s) x y = den SP (sym s) x y :=
      fun hp => ⟨rfl, trivial, fun x y => (R.sym_other s hp hf).symm⟩
    cases hp : physIdx s with
    | none =>
      simp only [hp] at h; cases h
      exact other (fun i hi => by rw [hp] at hi; cases hi)
    | some i =>
      simp only [hp] at h
      split at h <;> rename_i hi <;> cases h
      · refine ⟨R.F_int i, R.F_nd i, fun x y => ?_⟩
        rw [physIdx_name s i hp (Nat.lt_of_lt_of_le hi R.d_le)]
        exact (R.sym_coord i hi x y).symm
      · exact other (fun i' hi' => by rw [hp] at hi'; cases hi'; exact Nat.le_of_not_lt hi)
  | sf s k =>
    intro hf _ r h
    simp only [Frag, decide_eq_true_eq] at hf
    subst hf
    simp only [logical] at h; cases h
    have hpb := R.sf_pb s
    cases hk : κs s <;> simp only [hk] at hpb ⊢
    case l2 => exact ⟨IntPow_mul2 _ _ rfl R.invDet_int, NonDeg_mul2 SL _ _ trivial R.invDet_nd,
      fun x y => (hpb x y).symm⟩
    all_goals exact ⟨rfl, trivial, fun x y => (hpb x y).symm⟩
  | vf s k => intro hf; cases hf
  | idx b i _ =>
    intro hf _ r h
    cases b with
    | vf s k =>
      simp only [Frag, Bool.and_eq_true, decide_eq_true_eq] at hf
      obtain ⟨rfl, hi⟩ := hf
      simp only [logical, hi, if_true] at h; cases h
      exact ⟨R.pbVec_int s _ i, R.pbVec_nd s _ i, fun x y => (R.vf_pb s i hi x y).symm⟩
    | _ => cases hf
  | add as ih =>
    intro hf hn r h
    simp only [logical] at h
    obtain ⟨rs, hl, h⟩ := bind_ok h
    cases h
    obtain ⟨p1, q1, q2, _⟩ := ih hf hn rs hl
    exact ⟨p1, q1, q2⟩
  | mul as ih =>
    intro hf hn r h
    simp only [logical] at h
    obtain ⟨rs, hl, h⟩ := bind_ok h
    cases h
    obtain ⟨p1, q1, _, q3⟩ := ih hf hn rs hl
    exact ⟨p1, q1, q3⟩
  | pow b e ihb _ =>
    intro hf hn r h
    simp only [Frag, Bool.and_eq_true] at hf
    obtain ⟨n, hl⟩ := Option.isSome_iff_exists.mp hf.1
    obtain rfl := intLit_eq_some hl
    simp only [logical] at h
    obtain ⟨lb, hb, h⟩ := bind_ok h
    cases h
    simp only [NonDeg, intLit_num] at hn
    obtain ⟨p1, q1, q2⟩ := ihb hf.2 hn.2.1 lb hb
    refine ⟨by simp only [IntPow, intLit_num, Option.isSome_some, p1, Bool.and_self], ?_, fun x y => ?_⟩
    · simp only [NonDeg, intLit_num]
      refine ⟨?_, q1, trivial⟩
      cases n with
      | ofNat k => trivial
      | negSucc k =>
        intro x y
        rw [q2 x y, ← R.inv_eq]
        exact hn.1 x y
    · simp only [den, q2 x y, powSem, intLit_num, R.inv_eq]
      cases n <;> rfl
  | fn f a iha =>
    intro hf hn r h
    simp only [logical] at h
    obtain ⟨la, ha, h⟩ := bind_ok h
    cases h
    obtain ⟨p1, q1, q2⟩ := iha hf hn la ha
    exact ⟨p1, q1, fun x y => by simp only [den, q2 x y, R.fn_eq]⟩
  | pd c a iha =>
    intro hf hn r h
    simp only [Frag, Bool.and_eq_true, Bool.not_eq_true', decide_eq_true_eq] at hf
    obtain ⟨⟨hc, hci⟩, hfa⟩ := hf
    simp only [logical, hc, Bool.false_eq_true, if_false, hci, if_true] at h
    obtain ⟨la, ha, h⟩ := bind_ok h
    obtain ⟨g0, h0, h⟩ := bind_ok h
    obtain ⟨g1, h1, h⟩ := bind_ok h
    obtain ⟨g2, h2, h⟩ := bind_ok h
    cases h
    obtain ⟨p1, q1, q2⟩ := iha hfa hn la ha
    obtain ⟨r1, r2, r3⟩ := R.pd_case T c hc hci la p1 q1 g0 g1 g2 h0 h1 h2
    exact ⟨r1, r2, fun x y => by rw [r3 x y, q2 x y]; rfl⟩
  | op1 o a _ => intro hf; cases hf
  | op2 o a b _ _ => intro hf; cases hf
  | mat r c es _ => intro hf; cases hf
  | tup as _ => intro hf; cases hf
  | normal k => intro hf; cases hf
  | other t as _ => intro hf; cases hf
  | nil =>
    rename_i hf hn rs h
    simp only [logicalList] at h; cases h
    exact ⟨rfl, trivial, fun _ _ => rfl, fun _ _ => rfl⟩
  | cons a as iha ihas =>
    rename_i hf hn rs h
    simp only [logicalList] at h
    simp only [FragList, Bool.and_eq_true] at hf
    obtain ⟨r, h1, h⟩ := bind_ok h
    obtain ⟨rs', h2, h⟩ := bind_ok h
    cases h
    obtain ⟨p1, p3, p4⟩ := iha hf.1 hn.1 r h1
    obtain ⟨q1, q3, q4, q5⟩ := ihas hf.2 hn.2 rs' h2
    exact ⟨by simp only [IntPowList, p1, q1, Bool.and_self], ⟨p3, q3⟩, fun x y => by simp only [denSum, p4, q4],
      fun x y => by simp only [denProd, p4, q5]⟩

/-- **C03, terminal route.**  For every terminal expression `e` of the physical domain, every
    mapping with invertible Jacobian, every dimension 1–3 and every assignment of space kinds:
    if the transformation returns `r`, then the value of `r` at a logical point — logical
    fields being the pull-backs of the physical ones — is the value of `e` at the image point. -/
theorem logical_sound (SL SP : DRing K) (T : FnTable SL) (m : String) (j : Jac) (F : Nat → E)
    (κs κv : String → Kind) (R : MapRel SL SP m j F κs κv) (e r : E)
    (hf : Frag j.d κs κv e = true) (hn : NonDeg SP e) (h : logical m j F e = .ok r) :
    ∀ x y, den SL r x y = den SP e x y :=
  (logical_all SL SP T m j F κs κv R e hf hn r h).2.2

/-! ### The commuting relations: the operator-level rules of `LogicalExpr.eval`

`divRule`, `curlRule`, `gradRule` (Model/Pullback.lean) are what `LogicalExpr.eval` returns for
`div(u)`, `curl(u)`, `grad(u)` of a field of the matching kind.  Each denotes the classical
operator applied to the *physical* field (built from physical derivatives), for every mapping whose
Jacobian has symmetric derivatives (`J i l = ∂̂_l F_i`) and invertible determinant. -/

/-- `grad(u)`, `u` scalar H1/undefined: component `i` of `J⁻ᵀ ∇̂ û` is `∂_i u` -/
theorem grad_rule_sound (SL SP : DRing K) (m : String) (j : Jac) (F : Nat → E) (κs κv : String → Kind)
    (R : MapRel SL SP m j F κs κv) (s : String) (hk : κs s ≠ .l2) (i : Nat) (hi : i < j.d) (x y : Nat) :
    den SL (gradRule j s (κs s) i) x y = SP.D (pc i) (SP.sf s) := by
  have hsf : SP.sf s = SL.sf s := by
    have := R.sf_pb s x y
    cases hks : κs s <;> simp only [hks] at this hk <;> first | (simpa [den] using this) | exact absurd rfl hk
  rw [R.chain i hi (SP.sf s) x y, hsf]
  simp only [gradRule]
  rw [den_sum3 SL j.d R.d_le]
  apply DRing.sumN_congr
  intro l _
  simp only [den_mul2, den_pd, den_sf]

/-- 2-D: `div(u)` for `u ∈ H(div)` is `(1/det) div̂ û` -/
theorem div_rule_sound2 (SL SP : DRing K) (m : String) (j : Jac) (F : Nat → E) (κs κv : String → Kind)
    (R : MapRel SL SP m j F κs κv) (hd : j.d = 2) (s : String) (hk : κv s = .hdiv) (x y : Nat)
    (hs1 : SL.D .x2 (den SL (j.J 0 0) x y) = SL.D .x1 (den SL (j.J 0 1) x y))
    (hs2 : SL.D .x2 (den SL (j.J 1 0) x y) = SL.D .x1 (den SL (j.J 1 1) x y)) :
    den SL (divRule j s) x y = SP.D .x (SP.vf s 0) + SP.D .y (SP.vf s 1) := by
  obtain ⟨hu0, hu1⟩ := R.hdiv_pull2 hd s hk x y
  rw [(R.chain2 hd _ x y).1, (R.chain2 hd _ x y).2,
    ← Piola.div_cof_comb2 SL _ _ _ _ _ _ _ _ _ hu0 hu1 hs1 hs2]
  simp only [divRule, ldiv, hd, sum3, den_mul2, den_add2, den_pd, den_idx_vf, den_invDet, lc, Coord.ofIdx, if_true]
  ring

/-- 2-D: scalar `curl(u)` for `u ∈ H(curl)` is `(1/det) curl̂ û` -/
theorem curl_rule_sound2 (SL SP : DRing K) (m : String) (j : Jac) (F : Nat → E) (κs κv : String → Kind)
    (R : MapRel SL SP m j F κs κv) (hd : j.d = 2) (s : String) (hk : κv s = .hcurl) (x y : Nat)
    (hs1 : SL.D .x2 (den SL (j.J 0 0) x y) = SL.D .x1 (den SL (j.J 0 1) x y))
    (hs2 : SL.D .x2 (den SL (j.J 1 0) x y) = SL.D .x1 (den SL (j.J 1 1) x y)) :
    den SL (curlRule j s 0) x y = SP.D .x (SP.vf s 1) - SP.D .y (SP.vf s 0) := by
  obtain ⟨hu0, hu1⟩ := R.hcurl_pull2 hd s hk x y
  rw [(R.chain2 hd _ x y).1, (R.chain2 hd _ x y).2,
    ← Piola.curl_comb2 SL _ _ _ _ _ _ _ _ _ hu0 hu1 hs1 hs2]
  simp only [curlRule, lcurl2, hd, den_mul2, den_sub, den_pd, den_idx_vf, den_invDet]
  ring

/-- 1-D: `div(u) = u'` for `u ∈ H(div)` is `(1/det) û'` -/
theorem div_rule_sound1 (SL SP : DRing K) (m : String) (j : Jac) (F : Nat → E) (κs κv : String → Kind)
    (R : MapRel SL SP m j F κs κv) (hd : j.d = 1) (s : String) (hk : κv s = .hdiv) (x y : Nat) :
    den SL (divRule j s) x y = SP.D .x (SP.vf s 0) := by
  have hdet := R.det_unit x y
  have hv0 := R.vf_pb s 0 (by omega) x y
  have hc0 := fun k => R.chain 0 (by omega) k x y
  simp only [pc, Coord.ofIdx, if_false, Bool.false_eq_true] at hc0
  rw [hc0, hv0]
  simp only [hk, pbVec, divRule, ldiv, hd, sum3, DRing.sumN, den_mul2, den_invJ, den_invDet, adjJ,
    detJ, lc, Coord.ofIdx, if_true, den_pd, den_idx_vf, zero_add, den_one, one_mul] at hdet ⊢
  rw [SL.D_mul, SL.D_mul, SL.D_inv_of_mul_eq_one _ _ _ hdet]
  linear_combination (-(SL.inv (den SL (j.J 0 0) x y) * SL.D .x1 (SL.vf s 0))
    + SL.inv (den SL (j.J 0 0) x y) ^ 2 * SL.D .x1 (den SL (j.J 0 0) x y) * SL.vf s 0) * hdet

/-- 3-D: `div(u)` for `u ∈ H(div)` is `(1/det) div̂ û` -/
theorem div_rule_sound3 (SL SP : DRing K) (m : String) (j : Jac) (F : Nat → E) (κs κv : String → Kind)
    (R : MapRel SL SP m j F κs κv) (hd : j.d = 3) (s : String) (hk : κv s = .hdiv) (x y : Nat)
    (hsym : ∀ i l l', SL.D (lc l') (den SL (j.J i l) x y) = SL.D (lc l) (den SL (j.J i l') x y)) :
    den SL (divRule j s) x y = SP.D .x (SP.vf s 0) + SP.D .y (SP.vf s 1) + SP.D .z (SP.vf s 2) := by
  have hg : ∀ i, Piola.CurlFree SL (den SL (j.J i 0) x y) (den SL (j.J i 1) x y) (den SL (j.J i 2) x y) :=
    fun i => ⟨hsym i 0 1, hsym i 0 2, hsym i 1 2⟩
  have key := Piola.div_cof_comb SL
    (den SL (j.J 0 0) x y) (den SL (j.J 0 1) x y) (den SL (j.J 0 2) x y)
    (den SL (j.J 1 0) x y) (den SL (j.J 1 1) x y) (den SL (j.J 1 2) x y)
    (den SL (j.J 2 0) x y) (den SL (j.J 2 1) x y) (den SL (j.J 2 2) x y)
    (SP.vf s 0) (SP.vf s 1) (SP.vf s 2) (SL.vf s 0) (SL.vf s 1) (SL.vf s 2)
    (R.hdiv_pull3 hd s hk x y 0 (by omega)) (R.hdiv_pull3 hd s hk x y 1 (by omega))
    (R.hdiv_pull3 hd s hk x y 2 (by omega))
    (hg 0) (hg 1) (hg 2)
  rw [show Coord.x = pc 0 from rfl, show Coord.y = pc 1 from rfl, show Coord.z = pc 2 from rfl,
    R.chain3 hd 0 (by omega), R.chain3 hd 1 (by omega), R.chain3 hd 2 (by omega)]
  simp only [divRule, ldiv, hd, sum3, den_mul2, den_add3, den_pd, den_idx_vf, den_invDet, lc, Coord.ofIdx, if_true,
    den_adjJ3 SL j hd, Nat.reduceAdd, Nat.reduceMod]
  linear_combination SL.inv (den SL (detJ j) x y) * key

/-- 3-D: component `i` of `curl(u)` for `u ∈ H(curl)` is component `i` of `(J/det) curl̂ û`.
    With `u = Σ_k u_k ∇̂F_k` (rows `k = i, i+1, i+2` of the Jacobian) this is `Piola.dot_curl_comb`. -/
theorem curl_rule_sound3 (SL SP : DRing K) (m : String) (j : Jac) (F : Nat → E) (κs κv : String → Kind)
    (R : MapRel SL SP m j F κs κv) (hd : j.d = 3) (s : String) (hk : κv s = .hcurl) (x y : Nat)
    (hsym : ∀ i l l', SL.D (lc l') (den SL (j.J i l) x y) = SL.D (lc l) (den SL (j.J i l') x y))
    (i : Nat) (hi : i < 3) :
    den SL (curlRule j s i) x y
      = SP.D (pc ((i + 1) % 3)) (SP.vf s ((i + 2) % 3)) - SP.D (pc ((i + 2) % 3)) (SP.vf s ((i + 1) % 3)) := by
  have hg : ∀ i, Piola.CurlFree SL (den SL (j.J i 0) x y) (den SL (j.J i 1) x y) (den SL (j.J i 2) x y) :=
    fun i => ⟨hsym i 0 1, hsym i 0 2, hsym i 1 2⟩
  have hu : ∀ l, l < 3 → SL.vf s l = SP.vf s i * den SL (j.J i l) x y
      + SP.vf s ((i + 1) % 3) * den SL (j.J ((i + 1) % 3) l) x y
      + SP.vf s ((i + 2) % 3) * den SL (j.J ((i + 2) % 3) l) x y := fun l hl => by
    rw [sum_cyc3 (fun k => SP.vf s k * den SL (j.J k l) x y) i hi]
    exact R.hcurl_pull3 hd s hk x y l hl
  have key := Piola.dot_curl_comb SL
    (den SL (j.J i 0) x y) (den SL (j.J i 1) x y) (den SL (j.J i 2) x y)
    (den SL (j.J ((i + 1) % 3) 0) x y) (den SL (j.J ((i + 1) % 3) 1) x y) (den SL (j.J ((i + 1) % 3) 2) x y)
    (den SL (j.J ((i + 2) % 3) 0) x y) (den SL (j.J ((i + 2) % 3) 1) x y) (den SL (j.J ((i + 2) % 3) 2) x y)
    (SP.vf s i) (SP.vf s ((i + 1) % 3)) (SP.vf s ((i + 2) % 3)) (SL.vf s 0) (SL.vf s 1) (SL.vf s 2)
    (hu 0 (by omega)) (hu 1 (by omega)) (hu 2 (by omega))
    (hg _) (hg _) (hg _)
  obtain ⟨e1, e2, e3, e4⟩ := cyc3_idx i hi
  rw [R.chain3 hd _ (Nat.mod_lt _ (by decide)), R.chain3 hd _ (Nat.mod_lt _ (by decide)), den_curlRule3 SL j hd]
  simp only [den_adjJ3 SL j hd, e1, e2, e3, e4, Nat.reduceAdd, Nat.reduceMod]
  linear_combination SL.inv (den SL (detJ j) x y) * key

/-- 3-D: component 0 of `curl(u)` for `u ∈ H(curl)` is component 0 of `(J/det) curl̂ û` -/
theorem curl_rule_sound3_0 (SL SP : DRing K) (m : String) (j : Jac) (F : Nat → E) (κs κv : String → Kind)
    (R : MapRel SL SP m j F κs κv) (hd : j.d = 3) (s : String) (hk : κv s = .hcurl) (x y : Nat)
    (hsym : ∀ i l l', SL.D (lc l') (den SL (j.J i l) x y) = SL.D (lc l) (den SL (j.J i l') x y)) :
    den SL (curlRule j s 0) x y = SP.D .y (SP.vf s 2) - SP.D .z (SP.vf s 1) :=
  curl_rule_sound3 SL SP m j F κs κv R hd s hk x y hsym 0 (by decide)

/-- 3-D: component 1 of `curl(u)` for `u ∈ H(curl)` is component 1 of `(J/det) curl̂ û` -/
theorem curl_rule_sound3_1 (SL SP : DRing K) (m : String) (j : Jac) (F : Nat → E) (κs κv : String → Kind)
    (R : MapRel SL SP m j F κs κv) (hd : j.d = 3) (s : String) (hk : κv s = .hcurl) (x y : Nat)
    (hsym : ∀ i l l', SL.D (lc l') (den SL (j.J i l) x y) = SL.D (lc l) (den SL (j.J i l') x y)) :
    den SL (curlRule j s 1) x y = SP.D .z (SP.vf s 0) - SP.D .x (SP.vf s 2) :=
  curl_rule_sound3 SL SP m j F κs κv R hd s hk x y hsym 1 (by decide)

/-- 3-D: component 2 of `curl(u)` for `u ∈ H(curl)` is component 2 of `(J/det) curl̂ û` -/
theorem curl_rule_sound3_2 (SL SP : DRing K) (m : String) (j : Jac) (F : Nat → E) (κs κv : String → Kind)
    (R : MapRel SL SP m j F κs κv) (hd : j.d = 3) (s : String) (hk : κv s = .hcurl) (x y : Nat)
    (hsym : ∀ i l l', SL.D (lc l') (den SL (j.J i l) x y) = SL.D (lc l) (den SL (j.J i l') x y)) :
    den SL (curlRule j s 2) x y = SP.D .x (SP.vf s 1) - SP.D .y (SP.vf s 0) :=
  curl_rule_sound3 SL SP m j F κs κv R hd s hk x y hsym 2 (by decide)

end Sympde.PB

/-
  C10 — applying a form substitutes its arguments simultaneously and nothing else.
  Property theorems only.  Model: Model/Apply.lean (`callB` / `callL` = BilinearForm / LinearForm
  `__call__`, `isSymmetric` = `is_symmetric`), Model/Subst.lean (`subst` = `_xreplace`),
  Model/RingEq.lean (`ringEq` = the comparison of `Integral.__eq__`).  Helpers:
  Lemmas/Subst.lean, Lemmas/Apply.lean, Lemmas/RingEq.lean.
-/
import SympdeModel.Lemmas.Apply
import SympdeModel.Lemmas.RingEq
namespace Sympde.Apply
open E
open Sympde.Sub

/-- **call_self** — calling a bilinear (linear) form with its own arguments returns its
    integrals unchanged, whatever the arguments and integrands are. -/
theorem call_self (f : Form) :
    callB f (.many f.trials) (.many f.tests) [] = .ok f.integrals ∧
    callL f (.one (.many f.tests)) [] = .ok f.integrals ∧ callL f (.several f.tests) [] = .ok f.integrals := by
  have hid : ∀ l : List E, ∀ p ∈ callRule l l [], p.1 = p.2 := by
    intro l p hp
    simp only [callRule, List.reverse_nil, List.append_nil, List.mem_reverse] at hp
    exact mem_zip_self l p hp
  refine ⟨?_, ?_, ?_⟩
  · simp only [callB, kwRule, Arg.values]
    rw [applyRule_id _ (hid _)]
  · simp only [callL, kwRule, LArgs.values, Arg.values]
    rw [applyRule_id _ (hid _)]
  · simp only [callL, kwRule, LArgs.values]
    rw [applyRule_id _ (hid _)]

/-- **call_swap** — for pairwise distinct argument functions, `a(tests, trials)` is `a` in which
    every occurrence of a trial function is replaced by the test function of the same position
    *and* vice versa, leaf by leaf on the original integrands (`swapLeaf`); nothing else changes. -/
theorem call_swap (f : Form) (hleaf : ∀ x ∈ f.trials ++ f.tests, isLeafKey x = true)
    (hnd : (f.trials ++ f.tests).Nodup) (hlen : f.trials.length = f.tests.length) :
    callB f (.many f.tests) (.many f.trials) []
      = .ok (f.integrals.map fun p => (p.1, mapLeaves (swapLeaf f.trials f.tests) p.2)) := by
  have hkeys : ((f.trials ++ f.tests).zip (f.tests ++ f.trials)).map (·.1) = f.trials ++ f.tests :=
    List.map_fst_zip (by simp [hlen])
  have hk : ∀ q ∈ ((f.trials ++ f.tests).zip (f.tests ++ f.trials)).reverse, isLeafKey q.1 = true :=
    fun q hq => hleaf _ (List.of_mem_zip (List.mem_reverse.mp hq)).1
  -- the dictionary of the call, read as a function of the leaf, is the exchange
  have hρ : ruleFn ((f.trials ++ f.tests).zip (f.tests ++ f.trials)).reverse = swapLeaf f.trials f.tests := by
    funext t
    unfold ruleFn swapLeaf
    rw [lookup_reverse _ (by rw [hkeys]; exact hnd), List.zip_append hlen, lookup_append]
  simp only [callB, kwRule, Arg.values, applyRule, callRule, List.reverse_nil, List.append_nil,
    subst_eq_mapLeaves _ hk, hρ]

/-- exchanging twice gives the original back: the replacement really is an exchange -/
theorem swap_twice (us vs : List E) (hleaf : ∀ x ∈ us ++ vs, isLeafKey x = true) (hnd : (us ++ vs).Nodup)
    (hlen : us.length = vs.length) (e : E) :
    mapLeaves (swapLeaf us vs) (mapLeaves (swapLeaf us vs) e) = e := by
  have hndu : us.Nodup := (List.nodup_append.mp hnd).1
  have hndv : vs.Nodup := (List.nodup_append.mp hnd).2.1
  have hdisj : ∀ a, a ∈ us → a ∈ vs → False := fun a h1 h2 => (List.nodup_append.mp hnd).2.2 a h1 a h2 rfl
  have ku : (us.zip vs).map (·.1) = us := List.map_fst_zip hlen.le
  have kv : (vs.zip us).map (·.1) = vs := List.map_fst_zip hlen.ge
  have invol : ∀ t, swapLeaf us vs (swapLeaf us vs t) = t := by
    intro t
    unfold swapLeaf
    cases h1 : lookup (us.zip vs) t with
    | some b =>
      have hm := lookup_some h1
      have hb : b ∈ vs := (List.of_mem_zip hm).2
      have hnb : lookup (us.zip vs) b = none :=
        lookup_none_of_not_mem _ _ (by rw [ku]; exact fun hbu => hdisj b hbu hb)
      have hbt : lookup (vs.zip us) b = some t :=
        lookup_of_mem _ (by rw [kv]; exact hndv) _ _ (mem_zip_swap us vs t b hm)
      simp [hnb, hbt]
    | none =>
      cases h2 : lookup (vs.zip us) t with
      | some a =>
        have hm := lookup_some h2
        have hat : lookup (us.zip vs) a = some t :=
          lookup_of_mem _ (by rw [ku]; exact hndu) _ _ (mem_zip_swap vs us t a hm)
        simp [hat]
      | none => simp [h1, h2]
  have hl : ∀ t, isLeafKey t = true → isLeafKey (swapLeaf us vs t) = true := by
    intro t ht
    unfold swapLeaf
    cases h1 : lookup (us.zip vs) t with
    | some b => simpa using hleaf b (List.mem_append_right _ (List.of_mem_zip (lookup_some h1)).2)
    | none =>
      cases h2 : lookup (vs.zip us) t with
      | some a => simpa using hleaf a (List.mem_append_left _ (List.of_mem_zip (lookup_some h2)).2)
      | none => simpa using ht
  rw [mapLeaves_mapLeaves _ _ hl]
  exact mapLeaves_id _ (fun t _ => invol t) e

/-- a *sequential* replacement would differ: on `u*v` with `u ↦ v`, `v ↦ u` it yields `u*u` -/
theorem sequential_differs :
    let u := sf "u" .h1
    let v := sf "v" .h1
    subst [(u, v), (v, u)] (mul [u, v]) = mul [v, u] ∧ substSeq [(u, v), (v, u)] (mul [u, v]) = mul [u, u] :=
  ⟨rfl, rfl⟩

/-- **call_untouched** — a call keeps the integration domains, and is one substitution whose keys
    are declared arguments or named free variables only; every sub-tree in which none of them
    occurs (other fields, constants, coordinates, normal vectors, numbers) is left as it is. -/
theorem call_untouched (f : Form) (tr te : Arg) (kws : List (String × E)) (r : List (String × E))
    (h : callB f tr te kws = .ok r) :
    r.map (·.1) = f.integrals.map (·.1) ∧
    ∃ σ : Rule, r = applyRule σ f.integrals ∧ (∀ p ∈ σ, p.1 ∈ f.trials ++ f.tests ∨ p.1 ∈ freeVars f) ∧
      ∀ t, occurs (σ.map (·.1)) t = false → subst σ t = t := by
  unfold callB at h
  cases hk : kwRule f kws with
  | error e => simp [hk] at h
  | ok kw =>
    simp only [hk] at h
    injection h with h
    subst h
    refine ⟨by simp [applyRule], _, rfl, ?_, fun t ht => subst_of_not_occurs _ t ht⟩
    intro p hp
    simp only [callRule, List.mem_append, List.mem_reverse] at hp
    rcases hp with hp | hp
    · exact Or.inl (List.of_mem_zip hp).1
    · exact Or.inr (kwRule_keys f kws kw hk p hp)

/-- **kw_unknown_refused** — a keyword that is not the name of a free field or constant of the form
    is refused (`ValueError`), wherever it stands among the keywords. -/
theorem kw_unknown_refused (f : Form) (tr te : Arg) (la : LArgs) (kws : List (String × E))
    (h : ∃ p ∈ kws, freeVar f p.1 = none) :
    callB f tr te kws = .error .valueError ∧ callL f la kws = .error .valueError := by
  simp [callB, callL, kwRule_unknown f kws h]

variable {K : Type} [CommRing K] [Algebra ℚ K]

theorem sameIntegrals_sound (S : DRing K) (d : Nat) (lg : Bool) (a1 a2 : List (String × E))
    (h : sameIntegrals d a1 a2 = true) :
    a1.length = a2.length ∧ ∀ i (h1 : i < a1.length) (h2 : i < a2.length),
      a1[i].1 = a2[i].1 ∧ denG S d lg a1[i].2 0 0 = denG S d lg a2[i].2 0 0 := by
  induction a1 generalizing a2 with
  | nil =>
    cases a2 with
    | nil => exact ⟨rfl, fun i h1 => by simp at h1⟩
    | cons q r => simp [sameIntegrals] at h
  | cons p r ih =>
    cases a2 with
    | nil => simp [sameIntegrals] at h
    | cons q r2 =>
      obtain ⟨d1, e1⟩ := p
      obtain ⟨d2, e2⟩ := q
      simp only [sameIntegrals, Bool.and_eq_true, beq_iff_eq] at h
      obtain ⟨⟨hd, he⟩, hr⟩ := h
      obtain ⟨hl, hi⟩ := ih r2 hr
      refine ⟨by simp [hl], ?_⟩
      intro i h1 h2
      cases i with
      | zero => exact ⟨hd, RingEq.ringEq_sound S d lg e1 e2 he⟩
      | succ i => simpa using hi i (by simpa using h1) (by simpa using h2)

/-- **isSymmetric_sound** — the symmetry flag is never true for a form whose meaning changes
    when trial and test arguments are exchanged: if it is true, then `a(tests, trials)` has the
    same domains as `a` and, integral by integral, an integrand with the same classical meaning
    (`denG`) in every differential ring, i.e. for all functions at all points. -/
theorem isSymmetric_sound (f : Form) (h : isSymmetric f = true) (S : DRing K) (lg : Bool) :
    ∃ a2, callB f (.many f.tests) (.many f.trials) [] = .ok a2 ∧ f.integrals.length = a2.length ∧
      ∀ i (h1 : i < f.integrals.length) (h2 : i < a2.length),
        f.integrals[i].1 = a2[i].1 ∧
        denG S f.dim lg f.integrals[i].2 0 0 = denG S f.dim lg a2[i].2 0 0 := by
  unfold isSymmetric at h
  rw [(call_self f).1] at h
  cases h2 : callB f (.many f.tests) (.many f.trials) [] with
  | error e => simp [h2] at h
  | ok a2 =>
    simp only [h2] at h
    exact ⟨a2, rfl, sameIntegrals_sound S f.dim lg f.integrals a2 h⟩

/-! ### non-vacuity -/

def exU : E := sf "u" .h1
def exV : E := sf "v" .h1
def exF : E := sf "f" .h1
/-- `∫_Ω f ∇u·∇v + u v  +  ∫_Γ u v` -/
def exForm : Form :=
  { dim := 2, trials := [exU], tests := [exV],
    integrals := [("Omega", add [mul [exF, op2 .dot (op1 .grad exU) (op1 .grad exV)], mul [exU, exV]]),
                  ("Gamma", mul [exU, exV])] }
/-- `∫_Ω u ∂x v` (not symmetric) -/
def exConv : Form := { dim := 2, trials := [exU], tests := [exV], integrals := [("Omega", mul [exU, pd .x exV])] }

example : (∀ x ∈ exForm.trials ++ exForm.tests, isLeafKey x = true) ∧ (exForm.trials ++ exForm.tests).Nodup ∧
    exForm.trials.length = exForm.tests.length := by
  refine ⟨?_, ?_, rfl⟩
  · intro x hx
    simp [exForm] at hx
    rcases hx with rfl | rfl <;> rfl
  · simp [exForm, exU, exV]
example : isSymmetric exForm = true := by decide +kernel
example : isSymmetric exConv = false := by decide +kernel
example : callB exForm (.single exV) (.single exU) [] = .ok
    [("Omega", add [mul [exF, op2 .dot (op1 .grad exV) (op1 .grad exU)], mul [exV, exU]]), ("Gamma", mul [exV, exU])] := by
  rfl
example : callB exForm (.single (add [exU, exV])) (.single exV) [("f", exU)] = .ok
    [("Omega", add [mul [exU, op2 .dot (op1 .grad (add [exU, exV])) (op1 .grad exV)], mul [add [exU, exV], exV]]),
     ("Gamma", mul [add [exU, exV], exV])] := by rfl
example : freeVar exForm "zz" = none ∧ freeVar exForm "f" = some exF := ⟨rfl, rfl⟩
example : callB exForm (.single exU) (.single exV) [("zz", num 1 1)] = .error .valueError := by rfl

end Sympde.Apply

/-
  C17 — derivative atoms have a canonical identity: naming and order bookkeeping.  Model: Model/Atoms.lean (`symb` = SymbolicExpr, `maxOrders` =
  get_max_(logical_)partial_derivatives with `findPd`/`sortPd`/`indexAtom`).  Specifications
  (`symChars`, `Hygienic`, `trueMax`): Lemmas/AtomsName.lean, AtomsMax.lean.
-/
import SympdeModel.Lemmas.AtomsName
import SympdeModel.Lemmas.AtomsMax
namespace Sympde.Atoms
open E

/-! ### naming -/

/-- **symName_order_invariant** — whatever is below them, the derivatives of one kind at the head
    of a chain may be applied in any order: the symbol is the same. -/
theorem symName_order_invariant (lg : Bool) (cs cs' : List Coord) (hp : pureKind lg cs)
    (hperm : cs.Perm cs') (a : E) : symb (mkChain cs a) = symb (mkChain cs' a) := by
  have hp' : pureKind lg cs' := fun c hc => hp c (hperm.mem_iff.mpr hc)
  by_cases hne : cs = []
  · subst hne
    rw [List.nil_perm.mp hperm]
  · have hne' : cs' ≠ [] := fun h => hne (List.perm_nil.mp (h ▸ hperm))
    rw [symb, symb, symbP_pure_head lg cs hne hp, symbP_pure_head lg cs' hne' hp',
      countFrom_perm hperm]

/-- **symName_blocks** — the general form, also for chains mixing physical and logical
    derivatives: blocks of derivatives of one kind (outermost first, neighbouring blocks of
    different kinds) over a function or component give `name[_component]` followed by one
    `_code` per block, innermost block first — exactly `symChars` of the reversed block list. -/
theorem symName_blocks (bl : List (Bool × List Coord)) (hok : BlocksOK bl) (a : E) (ha : isFunAtom a = true) :
    symb (mkBlocks bl a) = .ok (sym (String.ofList
      (symChars (atomName a).1 (atomName a).2 (bl.reverse.map toBlock)))) := by
  rw [symb, symbP_blocks bl hok a ha none (by intro o h; cases h), outerSuffix, List.append_nil]

/-- **symName** — the symbol of a chain of `n ≥ 1` derivatives of one kind over a function or
    vector component is `name[_component]_code`, the code being that of the multi-index. -/
theorem symName_pure (lg : Bool) (c : Coord) (cs : List Coord) (hp : pureKind lg (c :: cs)) (a : E)
    (ha : isFunAtom a = true) :
    symb (mkChain (c :: cs) a) = .ok (sym (String.ofList
      (symChars (atomName a).1 (atomName a).2 [⟨lg, countFrom (0, 0, 0) (c :: cs)⟩]))) :=
  symName_blocks [(lg, c :: cs)] ⟨List.cons_ne_nil c cs, hp⟩ a ha

/-- … and the symbol of the atom itself is `name[_component]` -/
theorem symName_atom (a : E) (ha : isFunAtom a = true) :
    symb a = .ok (sym (String.ofList (symChars (atomName a).1 (atomName a).2 []))) :=
  symName_blocks [] trivial a ha

/-- the blocks of a well-formed chain are valid (non-zero multi-indices) -/
theorem blocks_valid (bl : List (Bool × List Coord)) (hok : BlocksOK bl) :
    ∀ b ∈ bl.reverse.map toBlock, b.valid := by
  intro b hb
  obtain ⟨x, hx, rfl⟩ := List.mem_map.mp hb
  have hx' : x ∈ bl := List.mem_reverse.mp hx
  clear hb hx
  induction bl with
  | nil => cases hx'
  | cons y rest ih =>
    rcases List.mem_cons.mp hx' with rfl | h
    · exact countFrom_pos x.2 (BlocksOK_head x.1 x.2 rest hok).1
    · cases rest with
      | nil => cases h
      | cons z rest' => exact ih hok.2.2.2 h

/-- **symName_injective** — under the hygiene hypothesis, two chains (any number of blocks of
    physical / logical derivatives, over functions or components of functions of the family)
    get the same symbol name IFF function, component and multi-indices coincide. -/
theorem symName_injective (names : List (List Char)) (hh : Hygienic names)
    (n1 n2 : List Char) (h1 : n1 ∈ names) (h2 : n2 ∈ names) (c1 c2 : Option Nat) (bs1 bs2 : List Block)
    (hv1 : ∀ b ∈ bs1, b.valid) (hv2 : ∀ b ∈ bs2, b.valid) :
    symChars n1 c1 bs1 = symChars n2 c2 bs2 ↔ n1 = n2 ∧ c1 = c2 ∧ bs1 = bs2 := by
  constructor
  · intro h
    simp only [symChars, List.append_assoc] at h
    have key : ∀ (m1 m2 : List Char) (d1 d2 : Option Nat) (b1 b2 : List Block), m1 ∈ names → m2 ∈ names →
        (∀ b ∈ b1, b.valid) → (∀ b ∈ b2, b.valid) →
        ∀ r, m2 = m1 ++ r → compChars d1 ++ tailChars b1 = r ++ (compChars d2 ++ tailChars b2) → r = [] := by
      intro m1 m2 d1 d2 b1 b2 hm1 hm2 hb1 hb2 r hr hs
      cases hrn : r with
      | nil => rfl
      | cons x xs =>
        exfalso
        rw [suffix_eq_render, suffix_eq_render] at hs
        obtain ⟨P, Q, hPQ, hP⟩ := renderSegs_prefix _ _ r (segsOf_no_underscore d1 b1) hs
        have hPne : P ≠ [] := by
          intro he; subst he; rw [hrn] at hP; simp [renderSegs] at hP
        have := prefix_isSuffix d1 b1 hb1 P Q hPQ hPne
        exact hh m1 hm1 m2 hm2 _ this (by rw [← hP]; exact hr)
    rcases List.append_eq_append_iff.mp h with ⟨r, hr, hs⟩ | ⟨r, hr, hs⟩
    · have := key n1 n2 c1 c2 bs1 bs2 h1 h2 hv1 hv2 r hr hs
      subst this
      simp only [List.append_nil, List.nil_append] at hr hs
      obtain ⟨e1, e2⟩ := suffix_inj c1 c2 bs1 bs2 hv1 hv2 hs
      exact ⟨hr.symm, e1, e2⟩
    · have := key n2 n1 c2 c1 bs2 bs1 h2 h1 hv2 hv1 r hr hs
      subst this
      simp only [List.append_nil, List.nil_append] at hr hs
      obtain ⟨e1, e2⟩ := suffix_inj c2 c1 bs2 bs1 hv2 hv1 hs
      exact ⟨hr, e1.symm, e2.symm⟩
  · rintro ⟨rfl, rfl, rfl⟩; rfl

/-- names as `String`s: `String.ofList` is injective, so the statement transfers to the symbols -/
theorem symbol_injective (a b : List Char) : sym (String.ofList a) = sym (String.ofList b) ↔ a = b := by
  constructor
  · intro h
    injection h with h
    have := congrArg String.toList h
    simpa using this
  · rintro rfl; rfl

/-- **hygiene is necessary**: where it fails, a bare function gets the symbol of a component or
    derivative of another function. -/
theorem hygiene_needed (names : List (List Char)) (h : ¬ Hygienic names) :
    ∃ n1 ∈ names, ∃ n2 ∈ names, ∃ c bs, (c ≠ none ∨ bs ≠ []) ∧ (∀ b ∈ bs, b.valid) ∧
      symChars n2 none [] = symChars n1 c bs := by
  apply Classical.byContradiction
  intro hcon
  apply h
  intro n1 h1 n2 h2 s hs he
  apply hcon
  obtain ⟨c, bs, hne, hv, rfl⟩ := hs
  exact ⟨n1, h1, n2, h2, c, bs, hne, hv, by simp [symChars, compChars, tailChars, he]⟩

/-- the decidable sufficient condition -/
theorem prefixFree_hygienic (names : List (List Char)) (h : prefixFree names = true) : Hygienic names := by
  intro n1 h1 n2 h2 s hs he
  obtain ⟨c, bs, hne, _, rfl⟩ := hs
  have hstart : ∃ r, compChars c ++ tailChars bs = '_' :: r := by
    cases c with
    | some i => exact ⟨_, rfl⟩
    | none =>
      cases bs with
      | nil => simp at hne
      | cons b bs => exact ⟨_, rfl⟩
  obtain ⟨r, hr⟩ := hstart
  simp only [prefixFree, List.all_eq_true] at h
  have := h n1 h1 n2 h2
  rw [he, hr] at this
  have hp : (n1 ++ ['_']).isPrefixOf (n1 ++ '_' :: r) = true := by
    rw [List.isPrefixOf_iff_prefix]
    exact ⟨r, by simp⟩
  simp [hp] at this

/-- counterexamples of the two open findings (un-hygienic names): a function literally named
    `u_x` has the symbol of `dx(u)`; a scalar function named `F_0` that of the component `F[0]` -/
theorem collision_u_x (k : Kind) : symb (pd .x (sf "u" k)) = symb (sf "u_x" k) := by rfl

theorem collision_F_0 (k : Kind) : symb (idx (vf "F" k) 0) = symb (sf "F_0" k) := by rfl

/-! ### SymbolicExpr is a homomorphism -/

/-- **symbolic_hom** — `SymbolicExpr` commutes with sums, products, powers (base *and* exponent),
    matrices, tuples and elementary functions, and leaves numbers, constants and plain symbols
    untouched. -/
theorem symbolic_hom (code : Option (List Char)) :
    (∀ as ss, symbList code as = .ok ss → symbP none code (add as) = .ok (add ss)) ∧
    (∀ as ss, symbList code as = .ok ss → symbP none code (mul as) = .ok (mul ss)) ∧
    (∀ b e b' e', symbP none code b = .ok b' → symbP none code e = .ok e' →
        symbP none code (pow b e) = .ok (pow b' e')) ∧
    (∀ r c es ss, symbList code es = .ok ss → symbP none code (mat r c es) = .ok (mat r c ss)) ∧
    (∀ as ss, symbList code as = .ok ss → symbP none code (tup as) = .ok (tup ss)) ∧
    (∀ f a a', symbP none code a = .ok a' → symbP none code (fn f a) = .ok (fn f a')) ∧
    (∀ p q, symbP none code (num p q) = .ok (num p q)) ∧
    (∀ n, symbP none code (cst n) = .ok (cst n)) ∧
    (∀ n, symbP none code (sym n) = .ok (sym n)) := by
  refine ⟨?_, ?_, ?_, ?_, ?_, ?_, ?_, ?_, ?_⟩
  · intro as ss h; rw [symbP, closeBlock, h]; rfl
  · intro as ss h; rw [symbP, closeBlock, h]; rfl
  · intro b e b' e' hb he; rw [symbP, closeBlock, hb, he]
  · intro r c es ss h; rw [symbP, closeBlock, h]; rfl
  · intro as ss h; rw [symbP, closeBlock, h]; rfl
  · intro f a a' h; rw [symbP, closeBlock, h]; rfl
  · intro p q; rw [symbP]
  · intro n; rw [symbP]
  · intro n; rw [symbP]

/-! ### matrices and tuples: shape and entries -/

/-- a node built from the converted argument list: it converts iff every argument does, and
    the arguments of the result are the conversions, in the same number and order -/
theorem map_symbList_ok (f : List E → E) (code : Option (List Char)) (es : List E) (m : E) :
    (symbList code es).map f = .ok m ↔
      ∃ ss, m = f ss ∧ es.length = ss.length ∧
        ∀ k (hk : k < es.length) (hk' : k < ss.length), symbP none code es[k] = .ok ss[k] := by
  constructor
  · intro h
    cases hs : symbList code es with
    | error x => rw [hs] at h; cases h
    | ok ss =>
      rw [hs] at h
      injection h with h
      exact ⟨ss, h.symm, (symbList_spec _ es ss).mp hs⟩
  · rintro ⟨ss, rfl, hl, hent⟩
    rw [(symbList_spec _ es ss).mpr ⟨hl, hent⟩]
    rfl

/-- **symbolic_matrix_entries** — `SymbolicExpr` of a matrix (`r` rows, `c` columns, entries in
    row-major order; any shape, square or not) succeeds iff every entry converts, and the result
    is a matrix of the SAME shape `r × c` with the same number of entries, the `k`-th one being
    the conversion of the `k`-th entry (with the code in force once a pending block of
    derivatives is closed). -/
theorem symbolic_matrix_entries (pend : Option (Bool × (Nat × Nat × Nat))) (outer : Option (List Char))
    (r c : Nat) (es : List E) (m : E) :
    symbP pend outer (mat r c es) = .ok m ↔
      ∃ ss, m = mat r c ss ∧ es.length = ss.length ∧
        ∀ k (hk : k < es.length) (hk' : k < ss.length),
          symbP none (closeBlock pend outer) es[k] = .ok ss[k] := by
  rw [symbP]
  exact map_symbList_ok (mat r c) _ es m

/-- … in particular entry `(i, j)` (position `i * c + j` of the row-major list) of
    `SymbolicExpr(M)` is `SymbolicExpr(M[i, j])`: no transposition, no re-flow of the entries. -/
theorem symbolic_matrix_entry (r c : Nat) (es ss : List E)
    (h : symb (mat r c es) = .ok (mat r c ss)) (i j : Nat) (_ : i < r) (_ : j < c)
    (hk : i * c + j < es.length) (hk' : i * c + j < ss.length) :
    symb es[i * c + j] = .ok ss[i * c + j] := by
  obtain ⟨ss', hm, _, hent⟩ := (symbolic_matrix_entries none none r c es _).mp h
  injection hm with _ _ hss
  subst hss
  exact hent _ hk hk'

/-- the shape cannot change: a result of `SymbolicExpr(mat r c …)` is never a matrix of another
    shape (e.g. the transposed one) -/
theorem symbolic_matrix_shape (r c r' c' : Nat) (es ss : List E)
    (h : symb (mat r c es) = .ok (mat r' c' ss)) : r' = r ∧ c' = c ∧ ss.length = es.length := by
  obtain ⟨ss', hm, hl, _⟩ := (symbolic_matrix_entries none none r c es _).mp h
  injection hm with hr hc hss
  subst hss
  exact ⟨hr, hc, hl.symm⟩

/-- **symbolic_tuple_entries** — the same for tuples / lists (`Tuple` of the conversions, same
    length, same order). -/
theorem symbolic_tuple_entries (pend : Option (Bool × (Nat × Nat × Nat))) (outer : Option (List Char))
    (es : List E) (m : E) :
    symbP pend outer (tup es) = .ok m ↔
      ∃ ss, m = tup ss ∧ es.length = ss.length ∧
        ∀ k (hk : k < es.length) (hk' : k < ss.length),
          symbP none (closeBlock pend outer) es[k] = .ok ss[k] := by
  rw [symbP]
  exact map_symbList_ok tup _ es m

/-! ### order bookkeeping -/

/-- the index triples of which `maxOrders` takes the maximum are those of the derivative chains
    of the requested function (of all chains when no function is given) -/
theorem mem_indices (lg : Bool) (e : E) (F : Option E) (hc : canon e = true)
    (hF : ∀ f, F = some f → isFunAtom f = true) (t : Nat × Nat × Nat) :
    t ∈ (match F with
      | none => (funAtoms e).flatMap (indexAtom lg e)
      | some f => indexAtom lg e f) ↔
    ∃ i ∈ findPd e, matchF F (stripAll i) = true ∧ t = indexOf lg i := by
  cases F with
  | none =>
    simp only [List.mem_flatMap, indexAtom, List.mem_map, List.mem_filter, mem_sortPd]
    constructor
    · rintro ⟨f, _, i, ⟨hi, _⟩, rfl⟩
      exact ⟨i, hi, rfl, rfl⟩
    · rintro ⟨i, hi, _, rfl⟩
      have hfa := canon_chains e hc i hi
      exact ⟨stripAll i, chain_atom_mem e i hi hfa, i, ⟨hi, by simp [sameAtom_refl hfa]⟩, rfl⟩
  | some f =>
    have hf := hF f rfl
    simp only [indexAtom, List.mem_map, List.mem_filter, mem_sortPd]
    constructor
    · rintro ⟨i, ⟨hi, hP⟩, rfl⟩
      refine ⟨i, hi, ?_, rfl⟩
      -- a chain whose atom of one kind is `f` has no derivative of the other kind below it
      rcases Bool.or_eq_true_iff.mp hP with h | h
      · have he := sameAtom_eq hf h
        have hnp : ∀ c a, stripKind lg i ≠ pd c a := by rw [he]; exact isFunAtom_not_pd hf
        rw [stripKind_eq_stripAll lg i hnp, he]
        exact sameAtom_refl hf
      · exact h
    · rintro ⟨i, hi, hm, rfl⟩
      exact ⟨i, ⟨hi, Bool.or_eq_true_iff.mpr (Or.inr hm)⟩, rfl⟩

/-- **maxOrders_eq_true**, for a requested function or overall — for a kernel in which every
    derivative chain is applied to a function or vector component, the reported maximal order in
    each direction equals the true maximum over all derivative chains found by a full traversal
    (inside elementary functions, exponents, matrices, and through blocks of the other kind of
    derivative). -/
theorem maxOrders_eq (lg : Bool) (e : E) (F : Option E) (hc : canon e = true)
    (hF : ∀ f, F = some f → isFunAtom f = true) (k : Nat) :
    comp3 k (maxOrders lg e F) = trueMax (Coord.ofIdx lg k) F e := by
  rw [maxOrders_comp, trueMax_eq_sup]
  have hval : ∀ i ∈ findPd e, matchF F (stripAll i) = true →
      chainVal (Coord.ofIdx lg k) F i = comp3 k (indexOf lg i) := by
    intro i hi hm
    have hfa := canon_chains e hc i hi
    rw [comp3_indexOf, countPd_chain _ _ hfa, chainVal, hfa, hm]
    rfl
  apply Nat.le_antisymm
  · apply supNat_le
    intro x hx
    obtain ⟨t, ht, rfl⟩ := List.mem_map.mp hx
    obtain ⟨i, hi, hm, rfl⟩ := (mem_indices lg e F hc hF t).mp ht
    rw [← hval i hi hm]
    exact le_supNat (List.mem_map.mpr ⟨i, hi, rfl⟩)
  · apply supNat_le
    intro x hx
    obtain ⟨i, hi, rfl⟩ := List.mem_map.mp hx
    by_cases hm : matchF F (stripAll i) = true
    · rw [hval i hi hm]
      exact le_supNat (List.mem_map.mpr ⟨_, (mem_indices lg e F hc hF _).mpr ⟨i, hi, hm, rfl⟩, rfl⟩)
    · simp [chainVal, hm]

/-- **maxOrders_eq_true**, per function — for a kernel in which every derivative chain is
    applied to a function or vector component, and a function or component `f`, the reported
    maximal order in each direction equals the true maximum over all derivative chains of `f`
    found by a full traversal (inside elementary functions, exponents, matrices, and through
    blocks of the other kind of derivative). -/
theorem maxOrders_eq_true_for (lg : Bool) (e f : E) (hc : canon e = true) (hf : isFunAtom f = true)
    (k : Nat) : comp3 k (maxOrders lg e (some f)) = trueMax (Coord.ofIdx lg k) (some f) e :=
  maxOrders_eq lg e (some f) hc (fun _ h => (Option.some.inj h) ▸ hf) k

/-- **maxOrders_eq_true**, overall — the same with no function given (`F=None`): the reported
    maximum equals the true maximum over the chains of all functions and components. -/
theorem maxOrders_eq_true (lg : Bool) (e : E) (hc : canon e = true) (k : Nat) :
    comp3 k (maxOrders lg e none) = trueMax (Coord.ofIdx lg k) none e :=
  maxOrders_eq lg e none hc (fun _ h => nomatch h) k

/-- **maxOrders_ge_true** — never less. -/
theorem maxOrders_ge_true (lg : Bool) (e : E) (hc : canon e = true) (k : Nat) :
    trueMax (Coord.ofIdx lg k) none e ≤ comp3 k (maxOrders lg e none) :=
  Nat.le_of_eq (maxOrders_eq_true lg e hc k).symm

/-! ### non-vacuity -/

def exF : E := sf "f" .h1
def exG : E := idx (vf "G" .h1) 1
/-- `sin(dx(dx(f))) + dx(f)*dy(dx(G[1]))**dx1(dx(f))`, with a matrix around it -/
def exKernel : E :=
  mat 1 2 [add [fn "sin" (pd .x (pd .x exF)),
                mul [pd .x exF, pow (pd .y (pd .x exG)) (pd .x1 (pd .x exF))]], exG]

example : canon exKernel = true := by decide
example : maxOrders false exKernel none = (2, 1, 0) := by decide
example : maxOrders true exKernel (some exF) = (1, 0, 0) := by decide
example : (trueMax .x none exKernel, trueMax .y (some exG) exKernel, trueMax .x1 (some exF) exKernel) = (2, 1, 1) := by
  decide
example : pureKind false [.y, .x, .x] ∧ [Coord.y, .x, .x].Perm [.x, .y, .x] :=
  ⟨by intro c hc; simp at hc; rcases hc with rfl | rfl <;> rfl, by decide⟩
example : symb (mkChain [.y, .x, .x] exG) = .ok (sym "G_1_xxy") := by rfl
example : symb (pd .x (pd .x1 (pd .x exF))) = .ok (sym "f_x_x1_x") := by rfl
example : BlocksOK [(false, [.x]), (true, [.x1]), (false, [.x])] :=
  ⟨by simp, by intro c hc; simp at hc; subst hc; rfl, by simp,
   by simp, by intro c hc; simp at hc; subst hc; rfl, by simp,
   by simp, by intro c hc; simp at hc; subst hc; rfl⟩
example : Hygienic ["f".toList, "G".toList, "u_h".toList] :=
  prefixFree_hygienic _ (by decide)
example : ¬ Hygienic ["u".toList, "u_x".toList] := by
  intro h
  exact h "u".toList (by simp) "u_x".toList (by simp) "_x".toList
    ⟨none, [⟨false, (1, 0, 0)⟩], Or.inr (by simp), by intro b hb; simp at hb; subst hb; simp [Block.valid], by decide⟩
    (by decide)
example : symb (add [pow (pd .x exF) (pd .y exF), num 2 1])
    = .ok (add [pow (sym "f_x") (sym "f_y"), num 2 1]) := by rfl
example : symb (mat 1 3 [pd .x exF, pd .y (pd .x exF), exG])
    = .ok (mat 1 3 [sym "f_x", sym "f_xy", sym "G_1"]) := by rfl
example : symb (mat 2 3 [pd .x exF, pd .y exF, exF, pd .x exG, pd .y exG, exG])
    = .ok (mat 2 3 [sym "f_x", sym "f_y", sym "f", sym "G_1_x", sym "G_1_y", sym "G_1"]) := by rfl
example : symb (tup [pd .x exF, exG]) = .ok (tup [sym "f_x", sym "G_1"]) := by rfl

end Sympde.Atoms

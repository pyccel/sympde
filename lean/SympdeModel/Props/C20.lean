/-
  C20 — name patterns expand exactly like sympy.symbols and shape the created elements.
  Property theorems only.  Model: Model/Pattern.lean (`expandStr`/`expand` =
  expand_name_patterns, `elementOf`/`elementsOf` = element_of/elements_of).  The grammar of
  well-formed patterns (`Layout`, `Item`, `Rng`), its independent denotation (`Item.den`,
  `Rng.den`, `shape`) and the helper lemmas are in Lemmas/Pattern*.lean.

  The agreement of the *implementation* with sympy.symbols is established by the three-way
  correspondence run and the oracle (sympy's source is not modelled a second time).
-/
import SympdeModel.Lemmas.PatternProps
import SympdeModel.Lemmas.PatternEscape
namespace Sympde.Pat

/-- **expand_spec** — on the grammar of well-formed patterns (names separated by commas and/or
    blanks, optional padding and trailing comma; every name a literal text interleaved with
    numeric / alphabetic ranges, optionally parenthesised) the model returns exactly the
    denotation: the concatenation, in order, of the concatenation-products of the items, in the
    shape decided by the sequence flag (explicit, else trailing comma), a range that expanded,
    and the number of names. -/
theorem expand_spec (p : Layout) (items : List Item) (hp : p.WF)
    (hn : p.names = items.map Item.render) (hi : ∀ it ∈ items, it.Good) (seq : Option Bool) :
    expandStr (match seq with | none => .none | some b => .some b) p.render
      = .ok (shape (seq.getD p.tcomma.isSome || items.any Item.setsSeq) (items.flatMap Item.den)) := by
  obtain ⟨h1, h2⟩ := escapeAll_no_backslash p.render (render_no_backslash p hp)
  rw [expandStr_tokens _ p hp h1, h2, hn, expandNames_items items hi]
  cases seq <;> simp [finish_eq_shape]

/-- length of the enumeration of a range: `b - a` numbers, `idx b + 1 - idx a` letters -/
theorem range_length (r : Rng) :
    r.den.length = match r with
      | .num a b => digitsVal b - digitsVal a
      | .alpha a b => letterIdx b + 1 - letterIdx (a.getD 'a') := by
  cases r <;> simp [Rng.den]

/-- **length formula**: an item yields the product of the lengths of its ranges -/
theorem den_length (it : Item) :
    it.den.length = (it.tail.map (fun s => s.r.den.length)).foldr (· * ·) 1 := by
  obtain ⟨head, tail⟩ := it
  simp only [Item.den]
  induction tail generalizing head with
  | nil => simp [denFrom]
  | cons s t ih =>
    simp only [denFrom, cat_length, List.length_cons, List.length_nil, ih s.lit, List.map_cons,
      List.foldr_cons]
    omega

/-- **order**: the first range varies slowest — the names of `head r lit …` are, for every value
    of `r` in order, the names of the remainder prefixed by `head` and that value -/
theorem den_order (head : Str) (s : Seg) (t : List Seg) :
    Item.den ⟨head, s :: t⟩
      = s.r.den.flatMap (fun x => (Item.den ⟨s.lit, t⟩).map (fun y => head ++ (x ++ y))) := by
  simp [Item.den, denFrom, cat, List.map_flatMap, Function.comp_def]

/-- **escapes** — a name written with unescaped characters (no blank, comma, colon, backslash, nor
    one of the code points 0-2, which serve as markers) and the escapes `\\,` `\\:` `\\ ` expands
    to the single name in which every escape stands for the escaped character: the escaped
    comma, colon and blank neither separate names nor start a range. -/
theorem expand_escaped (ts : List Tok) (hne : ts ≠ []) (hpl : ∀ c, Tok.plain c ∈ ts → PlainOK c) :
    expandStr .none (renderToks ts) = .ok (.name (ts.map Tok.value)) :=
  expandStr_escaped ts hne hpl .none

/-! ### errors -/

/-- 'missing end range' is raised by exactly the pieces that end with a colon -/
theorem piece_missing_end (p : Str) :
    expandPiece p = .error .missingEndRange ↔ p.getLast? = some ':' := by
  constructor
  · intro h
    rcases (expandPiece_error p _ h).2 with h | h
    · exact h.1
    · cases h.2
  · intro h
    simp [expandPiece, List.mem_of_getLast? h, h]

/-- **expand_errors** — for every string and every `seq` argument, the model fails only in the
    listed ways and exactly in the listed cases: `b` being the text after escape replacement,
    `strip` and removal of one trailing comma,
    * 'no symbols given'  ⇔  `b` is empty;
    * 'missing symbol between commas'  ⇔  `b` is not empty and some comma-separated field is blank;
    * `TypeError`  ⇔  neither of these and `seq` is not a bool;
    * 'missing symbol' (utils.py:107) is never raised;
    * any other failure is a `ValueError` raised by a piece containing a colon of one of the
      blank-separated names: 'missing end range' iff that piece ends with the colon, else a
      malformed range (several colons, non-integer bound, non-letter bound). -/
theorem expand_errors (seq : SeqArg) (s : Str) :
    let b := (body (escapeAll s).names).1
    let fields := (splitOn ',' b).map strip
    let names := fields.flatMap splitWs
    (expandStr seq s = .error .noSymbols ↔ b = []) ∧
    (expandStr seq s = .error .missingComma ↔ b ≠ [] ∧ [] ∈ fields) ∧
    (expandStr seq s = .error .seqType ↔ b ≠ [] ∧ [] ∉ fields ∧ seq = .bad) ∧
    expandStr seq s ≠ .error .missingSymbol ∧
    (∀ e, expandStr seq s = .error e → e ≠ .noSymbols → e ≠ .missingComma → e ≠ .seqType →
      (e = .missingEndRange ∨ e = .badRange) ∧
      ∃ n ∈ names, ∃ p ∈ stripParens (rangeSplit n), ':' ∈ p ∧ expandPiece p = .error e) := by
  intro b fields names
  have hN := expandNames_error_cause (escapeAll s).lits fields
  -- the loop over the names raises none of the four other errors
  have hN' : ∀ e, expandNames (escapeAll s).lits names = .error e →
      e ≠ .noSymbols ∧ e ≠ .missingComma ∧ e ≠ .seqType ∧ e ≠ .missingSymbol := by
    intro e h
    rcases (hN e h).1 with rfl | rfl <;> simp
  simp only [ne_eq, expandStr_error_iff]
  by_cases hb : b = []
  · simp [b, fields, hb]
  by_cases hf : [] ∈ fields
  · simp [b, fields, hb, hf]
  by_cases hs : seq = .bad
  · simp [b, fields, hb, hf, hs]
  · simp [b, fields, hb, hf, hs]
    exact ⟨fun h => (hN' _ h).1 rfl, fun h => (hN' _ h).2.1 rfl, fun h => (hN' _ h).2.2.1 rfl,
      fun h => (hN' _ h).2.2.2 rfl, fun e h _ _ _ => hN e h⟩

/-- on the grammar no error is possible (corollary of `expand_spec`) -/
theorem expand_ok_on_grammar (p : Layout) (items : List Item) (hp : p.WF)
    (hn : p.names = items.map Item.render) (hi : ∀ it ∈ items, it.Good) (seq : Option Bool) :
    ∃ r, expandStr (match seq with | none => .none | some b => .some b) p.render = .ok r :=
  ⟨_, expand_spec p items hp hn hi seq⟩

/-- blank input, with or without one comma: 'no symbols given' -/
theorem blank_no_symbols (w1 w2 : Str) (h1 : Blank w1) (h2 : Blank w2) (seq : SeqArg) :
    expandStr seq (w1 ++ w2) = .error .noSymbols ∧
    expandStr seq (w1 ++ ',' :: w2) = .error .noSymbols := by
  constructor
  · have hw : Blank (w1 ++ w2) := fun c hc => (List.mem_append.mp hc).elim (h1 c) (h2 c)
    apply (expand_errors seq _).1.mpr
    simp [(escapeAll_no_backslash _ (hw.not_mem rfl)).1, body, strip_blank _ hw]
  · have hnb : '\\' ∉ w1 ++ ',' :: w2 := by
      simp only [List.mem_append, List.mem_cons, not_or]
      exact ⟨h1.not_mem rfl, by decide, h2.not_mem rfl⟩
    have hs : strip (w1 ++ ',' :: w2) = [','] := by
      simpa using strip_pad w1 w2 [','] h1 h2 ⟨',', [], rfl, rfl⟩ ⟨[], ',', rfl, rfl⟩
    apply (expand_errors seq _).1.mpr
    simp [(escapeAll_no_backslash _ hnb).1, body, hs, rstrip_nil]

/-! ### containers -/

/-- in a container every item is expanded on its own, without `seq` (utils.py:158-163), and the
    container type is kept -/
theorem expand_container (seq : SeqArg) (k : Kind) (ps : List Pattern) (rs : List Res)
    (h : expandList ps = .ok rs) : expand seq (.cont k ps) = .ok (.cont k rs) := by
  simp [expand, h]

/-- **container_seq_witness** (open finding C20-container-seq-nesting) — with `seq=True` a list of
    two plain names stays a list of bare names, whereas each name alone becomes a 1-tuple:
    `sympy.symbols(['x', 'y'], seq=True)` applies the flag to the items (`[(x,), (y,)]`), sympde
    does not (same names, different nesting). -/
theorem container_seq_witness :
    expand (.some true) (.cont .list [.str ['x'], .str ['y']]) = .ok (.cont .list [.name ['x'], .name ['y']]) ∧
    expand (.some true) (.str ['x']) = .ok (.cont .tuple [.name ['x']]) := by
  constructor <;> rfl

theorem expandList_spec (ps : List Pattern) (rs : List Res) :
    expandList ps = .ok rs ↔
      ps.length = rs.length ∧ ∀ i (hi : i < ps.length) (hj : i < rs.length), expand .none ps[i] = .ok rs[i] := by
  induction ps generalizing rs with
  | nil => cases rs <;> simp [expandList]
  | cons p ps ih =>
    -- one turn of the loop: the head and the remainder both succeed
    have hstep : expandList (p :: ps) = .ok rs ↔
        ∃ r rs', rs = r :: rs' ∧ expand .none p = .ok r ∧ expandList ps = .ok rs' := by
      rw [expandList]
      cases expand .none p <;> cases expandList ps <;> simp [eq_comm]
    rw [hstep]
    constructor
    · rintro ⟨r, rs', rfl, hp, hps⟩
      obtain ⟨hl, hi⟩ := (ih rs').mp hps
      refine ⟨by simp [hl], fun i hi' hj => ?_⟩
      cases i with
      | zero => exact hp
      | succ i => exact hi i (by simpa using hi') (by simpa using hj)
    · rintro ⟨hl, h⟩
      cases rs with
      | nil => simp at hl
      | cons r rs' =>
        exact ⟨r, rs', rfl, h 0 (by simp) (by simp), (ih rs').mpr ⟨by simpa using hl,
          fun i hi hj => h (i + 1) (by simpa using hi) (by simpa using hj)⟩⟩

/-! ### element_of / elements_of -/

/-- **element_shape** (structure) — `element_of` on a product of scalar/vector spaces with a
    container of names creates, position by position, the function carrying that name in the
    component space of that position, in a container of the same type; the number created is
    `min` of the two lengths (Python `zip`), so with as many names as components nothing is lost. -/
theorem element_shape (sps : List Space) (hs : ∀ sp ∈ sps, sp.isFn = true) (k : Kind) (names : List Str) :
    recElem (.product sps) (.cont k (names.map .name)) = .ok (.cont k (List.zipWith Space.mk sps names)) ∧
    (List.zipWith Space.mk sps names).length = min sps.length names.length := by
  refine ⟨by simp [recElem, recElemZip_names sps hs names], by simp⟩

/-- a single name in a scalar/vector space is one function; in a product space it is refused;
    several names in a scalar/vector space are refused by `element_of` -/
theorem element_single (sp : Space) (h : sp.isFn = true) (n : Str) (sps : List Space) (k : Kind)
    (items : List Res) :
    recElem sp (.name n) = .ok (sp.mk n) ∧
    recElem (.product sps) (.name n) = .error .productElement ∧
    recElem sp (.cont k items) = .error .multiple := by
  cases sp <;> simp_all [Space.isFn, recElem, Space.element, Space.mk]

/-- **element_shape** (from the pattern) — `element_of(V1 × … × Vn, pattern)` for a well-formed
    pattern denoting exactly `n ≥ 2` names is the tuple of the `n` functions carrying the
    expanded names, the i-th one in `Vi`. -/
theorem element_of_pattern (sps : List Space) (hs : ∀ sp ∈ sps, sp.isFn = true) (p : Layout)
    (items : List Item) (hp : p.WF) (hn : p.names = items.map Item.render)
    (hi : ∀ it ∈ items, it.Good) (hlen : (items.flatMap Item.den).length = sps.length)
    (h2 : 2 ≤ sps.length) :
    elementOf (.product sps) (.str p.render)
      = .ok (.cont .tuple (List.zipWith Space.mk sps (items.flatMap Item.den))) := by
  rw [elementOf_str _ rfl, expand_spec p items hp hn hi none, shape_tuple _ _ (.inr (by omega))]
  exact (element_shape sps hs .tuple _).1

/-- **elements_shape** — `elements_of` on a scalar/vector space creates one function per name,
    same number, same order, same container type, all in that space … -/
theorem elements_shape (sp : Space) (h : sp.isFn = true) (k : Kind) (names : List Str) :
    recElems sp (.cont k (names.map .name)) = .ok (.cont k (names.map sp.mk)) := by
  cases sp with
  | scalar v => simp [recElems, recElemsAll_names (.scalar v) rfl]
  | vector v => simp [recElems, recElemsAll_names (.vector v) rfl]
  | product sps => cases h
  | notSpace => cases h

/-- … and on a product space the outer level of the names is matched with the component spaces
    and every group of names becomes a group of functions of that component space. -/
theorem elements_product_shape (sps : List Space) (hs : ∀ sp ∈ sps, sp.isFn = true) (k k' : Kind)
    (groups : List (List Str)) :
    recElems (.product sps) (.cont k (groups.map (fun g => .cont k' (g.map .name))))
      = .ok (.cont k (List.zipWith (fun sp g => .cont k' (g.map sp.mk)) sps groups)) := by
  have : recElemsZip sps (groups.map (fun g => .cont k' (g.map .name)))
      = .ok (List.zipWith (fun sp g => .cont k' (g.map sp.mk)) sps groups) := by
    induction sps generalizing groups with
    | nil => simp [recElemsZip]
    | cons sp sps ih =>
      obtain ⟨hsp, hrest⟩ := List.forall_mem_cons.mp hs
      cases groups with
      | nil => simp [recElemsZip]
      | cons g gs => simp [recElemsZip, elements_shape sp hsp k' g, ih hrest gs]
  simp [recElems, this]

/-- `elements_of(V, pattern)` for a well-formed pattern: one function of `V` per expanded name,
    always in a tuple (the sequence flag is forced) -/
theorem elements_of_pattern (sp : Space) (h : sp.isFn = true) (p : Layout) (items : List Item)
    (hp : p.WF) (hn : p.names = items.map Item.render) (hi : ∀ it ∈ items, it.Good) :
    elementsOf sp (.str p.render) = .ok (.cont .tuple ((items.flatMap Item.den).map sp.mk)) := by
  rw [elementsOf_str _ (isSpaceObj_of_isFn h), expand_spec p items hp hn hi (some true),
    Option.getD_some, Bool.true_or, shape_tuple _ _ (.inl rfl)]
  exact elements_shape sp h .tuple _

/-! ### the single-name entry point `element_of(V, pattern)` on a scalar / vector space -/

/-- **element_of_spec** — for EVERY string (no grammar hypothesis) and a scalar / vector space:
    `element_of` always goes through the expansion (space.py:65) and succeeds iff the expansion
    is exactly one bare name, the result being the function of that (expanded, un-escaped) name
    in that space; an expansion that is a container — several names, a trailing comma, a range —
    is refused with 'To create multiple elements …' (`ValueError`), and every error of the
    expansion ('no symbols given' for an empty / blank pattern, …) is passed on unchanged. -/
theorem element_of_spec (sp : Space) (h : sp.isFn = true) (s : Str) :
    (∀ el, elementOf sp (.str s) = .ok el ↔ ∃ n, expandStr .none s = .ok (.name n) ∧ el = sp.mk n) ∧
    (∀ k items, expandStr .none s = .ok (.cont k items) → elementOf sp (.str s) = .error .multiple) ∧
    (∀ e, expandStr .none s = .error e → elementOf sp (.str s) = .error e) := by
  rw [elementOf_str _ (isSpaceObj_of_isFn h)]
  cases expandStr .none s with
  | error e => simp
  | ok r =>
    cases r with
    | name n => simp [(element_single sp h n [] .tuple []).1, eq_comm]
    | cont k items => simp [(element_single sp h [] [] k items).2.2]

/-- **element_of_layout** — on the grammar: `element_of(V, pattern)` succeeds iff the pattern has
    no trailing comma, no range that expands, and denotes exactly one name; padding blanks around
    the name are dropped; two names separated by blanks or commas are refused. -/
theorem element_of_layout (sp : Space) (h : sp.isFn = true) (p : Layout) (items : List Item)
    (hp : p.WF) (hn : p.names = items.map Item.render) (hi : ∀ it ∈ items, it.Good) :
    elementOf sp (.str p.render) =
      match (p.tcomma.isSome || items.any Item.setsSeq), items.flatMap Item.den with
      | false, [n] => .ok (sp.mk n)
      | _, _ => .error .multiple := by
  have hx := expand_spec p items hp hn hi none
  rw [Option.getD_none] at hx
  rw [elementOf_str _ (isSpaceObj_of_isFn h), hx]
  have h1 := fun n => (element_single sp h n [] .tuple []).1
  have h2 := fun k items => (element_single sp h [] [] k items).2.2
  rcases items.flatMap Item.den with _ | ⟨x, _ | ⟨y, ys⟩⟩ <;>
    cases (p.tcomma.isSome || items.any Item.setsSeq) <;> simp [shape, h1, h2]

/-- **element_of_escaped** — a single name written with the escapes `\\,` `\\:` `\\ ` is one
    function whose name holds the escaped characters themselves (`u\\ v` is named `u v`). -/
theorem element_of_escaped (sp : Space) (h : sp.isFn = true) (ts : List Tok) (hne : ts ≠ [])
    (hpl : ∀ c, Tok.plain c ∈ ts → PlainOK c) :
    elementOf sp (.str (renderToks ts)) = .ok (sp.mk (ts.map Tok.value)) :=
  ((element_of_spec sp h _).1 _).mpr ⟨_, expand_escaped ts hne hpl, rfl⟩

/-- **element_of_blank** — an empty or all-blank pattern names nothing: 'no symbols given'. -/
theorem element_of_blank (sp : Space) (h : sp.isFn = true) (w : Str) (hw : Blank w) :
    elementOf sp (.str w) = .error .noSymbols := by
  have := (blank_no_symbols w [] hw blank_nil .none).1
  rw [List.append_nil] at this
  exact (element_of_spec sp h w).2.2 _ this

/-! ### non-vacuity: concrete patterns meet the hypotheses, and the model computes on them -/

/-- the item `x(1:3)_(a:b)` -/
def exItem : Item :=
  ⟨['x'], [⟨.num ['1'] ['3'], true, ['_']⟩, ⟨.alpha (some 'a') 'b', true, []⟩]⟩

example : exItem.render = "x(1:3)_(a:b)".toList := by decide
example : exItem.Good := by
  refine ⟨⟨?_, ?_⟩, Or.inl (by decide)⟩
  · refine ⟨by decide, ⟨by decide, by decide, by decide⟩, ?_, ?_, ?_⟩
    · intro pre c h
      have : ['x', '('] = pre ++ [c] := h
      have hl := congrArg List.getLast? this
      simp at hl; subst hl; decide
    · intro c h
      simp [renderFrom, Seg.cls, Seg.opn] at h
      subst h; decide
    · exact ⟨by decide, ⟨by intro c h; injection h with h; subst h; decide, by decide⟩, trivial, trivial,
        by simp [ScanWF, Seg.cls]⟩
  · exact ⟨by simp, by simp, trivial⟩
example : exItem.den = ["x1_a".toList, "x1_b".toList, "x2_a".toList, "x2_b".toList] := by decide
example : expandStr .none " x(1:3)_(a:b), y ".toList
    = .ok (.cont .tuple (["x1_a", "x1_b", "x2_a", "x2_b", "y"].map (fun s => .name s.toList))) := by rfl
example : expandStr .none "x:".toList = .error .missingEndRange := by rfl
example : expandStr .none "a,,b".toList = .error .missingComma := by rfl
example : expandStr .none " , ".toList = .error .noSymbols := by rfl
example : expandStr .bad "x".toList = .error .seqType := by rfl
example : expandStr .none "x:y:z:".toList = .error .missingEndRange := by rfl
example : expandStr (.some true) "x".toList = .ok (.cont .tuple [.name ['x']]) := by rfl
example : expandStr .none "x\\,y".toList = .ok (.name "x,y".toList) := by rfl
example : renderToks [.plain 'x', .esc .comma, .plain 'y', .esc .colon, .plain '2', .esc .blank, .plain 'z']
    = "x\\,y\\:2\\ z".toList := by decide
example : ∀ c, Tok.plain c ∈ [Tok.plain 'x', .esc .comma, .plain 'y'] → PlainOK c := by
  intro c hc
  simp at hc
  rcases hc with rfl | rfl <;> exact ⟨by decide, by decide, by decide, by decide, by decide⟩
example : elementOf (.product [.scalar "V", .vector "W"]) (.str "u, F".toList)
    = .ok (.cont .tuple [.fn false ['u'] "V", .fn true ['F'] "W"]) := by rfl
example : elementOf (.scalar "V") (.str "  u ".toList) = .ok (.fn false ['u'] "V") := by rfl
example : elementOf (.scalar "V") (.str "u\\ v".toList) = .ok (.fn false "u v".toList "V") := by rfl
example : elementOf (.vector "W") (.str "p\\:q".toList) = .ok (.fn true "p:q".toList "W") := by rfl
example : elementOf (.scalar "V") (.str "u v".toList) = .error .multiple := by rfl
example : elementOf (.vector "W") (.str "u,".toList) = .error .multiple := by rfl
example : elementOf (.scalar "V") (.str "".toList) = .error .noSymbols := by rfl
example : elementOf (.vector "W") (.str "   ".toList) = .error .noSymbols := by rfl
example : elementOf (.product [.scalar "V", .vector "W"]) (.str "u\\ 1  w".toList)
    = .ok (.cont .tuple [.fn false "u 1".toList "V", .fn true ['w'] "W"]) := by
  -- evaluated in two stages: `rfl` on the whole re-evaluates the expansion inside `recElem`
  have h : expandStr .none "u\\ 1  w".toList = .ok (.cont .tuple [.name "u 1".toList, .name ['w']]) := rfl
  rw [elementOf_str _ rfl, h]
  rfl
example : elementsOf (.scalar "V") (.str "u:3".toList)
    = .ok (.cont .tuple [.fn false "u0".toList "V", .fn false "u1".toList "V", .fn false "u2".toList "V"]) := by
  rfl

end Sympde.Pat

/-
  C16 — analytical mappings are coherent, symbolically and numerically.

  The symbolic half is GENERATED: `Gen/MappingsThms.lean` (regenerated from the current source on every run)
  contains, per catalogue mapping x admissible dimension, for the stored quantities found in `Gen/Mappings.lean`,

      jac_is_derivative_<M>   (J)ᵢⱼ = D_{xⱼ} (Xᵢ)              hypotheses: `FnTable S` (sin′ = cos, cos′ = −sin, …)
      inv_is_inverse_<M>      Σₖ Jᵢₖ (J⁻¹)ₖⱼ = δᵢⱼ             hypotheses: `NonDeg S M_Jinv` (every denominator of
                                                                the stored inverse is invertible)
      metric_is_gram_<M>      Gᵢⱼ = Σₖ Jₖᵢ Jₖⱼ                  no hypothesis
      metric_det_is_det_<M>   detG = det G                      no hypothesis

  in EVERY differential ring `S` (commutative ℚ-algebra with commuting derivations): parameters,
  coordinates and sin/cos/… of coordinates are arbitrary ring elements, so the statements hold for all
  parameter values and all points; no trigonometric identity is used.  Each is a check over the stored tables
  that the kernel evaluates (`Lemmas/Mappings.lean`).  CzarnyMapping (square roots) additionally assumes
  `NonDeg` of X, J, G and the square-root facts `Czarny_2_Rad`; its determinant and inverse are stated in
  comments only (see `Gen.Map.notProved`).

  This file: the general facts about fractions behind the checks, and the broadcasting model of
  `lambdify_sympde` (Model/Broadcast.lean).
-/
import SympdeModel.Gen.MappingsThms
import SympdeModel.Lemmas.Broadcast
namespace Sympde
open E PD Frac

variable {K : Type} [CommRing K] [Algebra ℚ K]

/-- **Fractions.**  Every expression `e` is the fraction `n / d` computed by `Frac.asFrac`, with `d` invertible
    (inverse `di`), as soon as the bases of the negative integer powers of `e` are invertible (`NonDeg`):
    the generated obligations are polynomial identities between such numerators and denominators. -/
theorem asFraction_sound (S : DRing K) (e : E) (h : NonDeg S e) (i j : Nat) :
    den S e i j * den S (asFrac e).d i j = den S (asFrac e).n i j ∧
    den S (asFrac e).d i j * den S (asFrac e).di i j = 1 := asFrac_sound S e h i j

/-- an expression without negative or fractional powers needs no side condition -/
theorem polynomial_nonDeg (S : DRing K) (e : E) (h : polyLike e = true) : NonDeg S e := polyLike_nonDeg S e h

/-- two expressions denote the same element when the numerator of their difference denotes zero -/
theorem equal_of_numerator_zero (S : DRing K) (a b : E) (h : NonDeg S (.add [a, .mul [.num (-1) 1, b]])) (i j : Nat)
    (hn : den S (asFrac (.add [a, .mul [.num (-1) 1, b]])).n i j = 0) : den S a i j = den S b i j := by
  obtain ⟨h1, h2⟩ := asFrac_sound S _ h i j
  rw [hn] at h1
  simp only [den, denSum, denProd, algebraMap_int_div_one_map] at h1
  linear_combination (den S (asFrac (.add [a, .mul [.num (-1) 1, b]])).di i j) * h1
    - (den S a i j - den S b i j) * h2

/-- everything the current catalogue contains was translated (no constructor failure, no expression outside
    the fragment): 15 mapping x dimension blocks -/
theorem catalogue_covered : Gen.Map.notTranslated = [] ∧ Gen.Map.catalogue.length = 15 := by decide

namespace Bcast

/-- **Output shape.**  Whenever the shapes of the arguments are broadcastable to `b`, a lambdified scalar
    expression returns shape `b` and a lambdified array expression of component shape `comp` returns
    `comp ++ b` — whatever subset of the variables each component really depends on (constants included). -/
theorem broadcast_shape (comp : Shape) (inputs : List Shape) (used : List (List Nat)) (b : Shape)
    (h : broadcastAll inputs = some b) : lambdifyShape comp inputs used = .ok (comp ++ b) := by
  unfold lambdifyShape
  rw [h]
  simp only
  split
  · rename_i hc
    have hc' : comp = [] := by simpa using hc
    subst hc'
    obtain ⟨t, ht, hf⟩ := used_fits inputs b h (used.headD [])
    rw [ht]
    simp only [List.nil_append]
    split
    · rename_i hb
      have hb0 : b = [] := by simpa using hb
      subst hb0
      have : t = [] := by
        have := fitsR_nil_right t.reverse (by simpa [fits] using hf)
        simpa using this
      rw [this]
    · split
      · rename_i e
        have : b = t := by simpa using e
        rw [this]
      · simp
  · have : (used.all fun u =>
        match broadcastAll (pick inputs u) with
        | some t => fits t b
        | none => false) = true := by
      rw [List.all_eq_true]
      intro u _
      obtain ⟨t, ht, hf⟩ := used_fits inputs b h u
      rw [ht]; exact hf
    split
    · rfl
    · rename_i hn; exact absurd this hn

/-- **Refusal.**  Arguments whose shapes are not broadcastable are refused (numpy's ValueError). -/
theorem broadcast_refused (comp : Shape) (inputs : List Shape) (used : List (List Nat))
    (h : broadcastAll inputs = none) : lambdifyShape comp inputs used = .error .valueError := by
  unfold lambdifyShape; rw [h]

/-- two lengths are incompatible exactly when they differ and neither is 1 -/
theorem dim2_none_iff (x y : Nat) : dim2 x y = none ↔ x ≠ y ∧ x ≠ 1 ∧ y ≠ 1 := by
  unfold dim2; split_ifs <;> simp_all

/-- broadcasting is commutative, idempotent, associative, and the scalar shape is neutral -/
theorem broadcast_comm (a b : Shape) : broadcast2 a b = broadcast2 b a := by
  unfold broadcast2; rw [bcR_comm]

theorem broadcast_idem (a : Shape) : broadcast2 a a = some a := by
  unfold broadcast2; rw [bcR_self]; simp

theorem broadcast_scalar (a : Shape) : broadcast2 [] a = some a ∧ broadcast2 a [] = some a := by
  unfold broadcast2; simp [bcR, bcR_nil_right]

theorem broadcast_assoc (a b c : Shape) :
    (broadcast2 a b).bind (fun d => broadcast2 d c) = (broadcast2 b c).bind (fun d => broadcast2 a d) := by
  have h := bcR_assoc a.reverse b.reverse c.reverse
  unfold broadcast2
  cases h1 : bcR a.reverse b.reverse <;> cases h2 : bcR b.reverse c.reverse <;>
    simp only [h1, h2, Option.map_none, Option.map_some, Option.bind_none, Option.bind_some, List.reverse_reverse] at h ⊢
  · rw [← h]; simp
  · rw [h]; simp
  · rw [h]

/-- every argument — and the result of any subset of the arguments — fits into the broadcast shape (so the
    assignment `result[...] = temp` of `lambdify_sympde` never fails and never changes the shape) -/
theorem broadcast_fits (inputs : List Shape) (b : Shape) (h : broadcastAll inputs = some b) :
    (∀ s ∈ inputs, fits s b = true) ∧
    ∀ used : List Nat, ∃ t, broadcastAll (pick inputs used) = some t ∧ fits t b = true :=
  ⟨broadcastAll_fits inputs b h, used_fits inputs b h⟩

/-- the order of the arguments does not matter for two arguments … -/
theorem broadcastAll_pair (a b : Shape) : broadcastAll [a, b] = broadcast2 a b := by
  simp only [broadcastAll, Option.bind_some]
  rw [(broadcast_scalar b).2]; rfl

end Bcast

/-! ### non-vacuity / tests -/

section Examples
open Bcast Gen.Map

example : broadcastAll [[3, 1], [1, 4], []] = some [3, 4] := by decide
example : lambdifyShape [2, 2] [[3, 1], [1, 4]] [[0], [0, 1], [], [1]] = .ok [2, 2, 3, 4] := by decide
example : lambdifyShape [] [[3], [4]] [[0, 1]] = .error .valueError := by decide
example : lambdifyShape [] [[], []] [[]] = .ok [] := by decide
example : polyLike Polar_2_J = true ∧ polyLike Polar_2_G = true ∧ polyLike Torus_3_detG = true := by decide
example : polyLike Polar_2_Jinv = false ∧ polyLike Czarny_2_X = false := by decide
example : Elem Polar_2_X00 = true ∧ Elem TwistedTarget_3_X20 = true := by decide
example : notProved.length = 2 := by decide

end Examples
end Sympde

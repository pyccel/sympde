/-
  C02 — automatic simplification at construction never changes an expression's meaning.
  Grad (the rule identities are in Lemmas/Calc.lean, the branches all `eval` methods share in
  Lemmas/Calc2.lean, the other constructors in Props/C02b.lean).

  Meaning = `denG` (Sem/DenG.lean): the classical component definitions in an arbitrary
  differential ring, i.e. for every choice of smooth functions at every point.
-/
import SympdeModel.Lemmas.Calc2
namespace Sympde
open E Calc

variable {K : Type} [CommRing K] [Algebra ℚ K]

theorem hasFList_iff (as : List E) : hasFList as = as.any hasF := by
  induction as with
  | nil => simp [hasFList]
  | cons a as ih => simp [hasFList, ih]

/-- the gradient of a product of scalar factors, from the gradients of the factors -/
theorem gradProd_spec (S : DRing K) (d : Nat) (lg : Bool) (ev : E → Except Err E) (l : List E)
    (hl : ∀ a ∈ l, Scal d a = true ∧ ∀ r, ev a = .ok r →
      GI d r ∧ ∀ i j, denG S d lg r i j = Di S lg i (denG S d lg a 0 0))
    (v : E) (h : gradProd (l.map (fun a => (a, ev a))) = .ok v) :
    GI d v ∧ ∀ i j, denG S d lg v i j = Di S lg i (denGProd S d lg l 0 0) := by
  induction l generalizing v with
  | nil =>
    injection h with h; subst h
    exact ⟨GI_zero d, fun i j => by rw [denG_zero]; exact (Di_one S lg i).symm⟩
  | cons f rest ih =>
    have hf := hl f (by simp)
    cases rest with
    | nil =>
      simp only [denGProd, mul_one]
      exact hf.2 v h
    | cons q rest' =>
      have hrest : ∀ a ∈ q :: rest', Scal d a = true ∧ ∀ r, ev a = .ok r →
          GI d r ∧ ∀ i j, denG S d lg r i j = Di S lg i (denG S d lg a 0 0) :=
        fun a ha => hl a (by simp [ha])
      simp only [List.map, gradProd] at h
      obtain ⟨g1, hg1, h⟩ := bind_ok h
      obtain ⟨g2, hg2, h⟩ := bind_ok h
      injection h with h; subst h
      obtain ⟨gi1, s1⟩ := hf.2 g1 hg1
      obtain ⟨gi2, s2⟩ := ih hrest g2 hg2
      have hS : Scal d (Calc.mulOf (q :: rest')) = true := Scal_mulOf d _ (fun a ha => (hrest a ha).1)
      have hm := map_fst_pair ev (q :: rest')
      simp only [List.map] at hm
      rw [hm]
      refine ⟨GI_add d _ (forall_mem2 (GI_mul d _ (forall_mem2 (WF_scal d _ hf.1) gi2.wf))
        (GI_mul d _ (forall_mem2 gi1.wf (WF_scal d _ hS)))), fun i j => ?_⟩
      rw [denG_add2, denG_mul2, denG_mul2, s1, s2, Scal_free S d lg f hf.1 i j,
        Scal_free S d lg _ hS i j, denG_mulOf]
      change _ = Di S lg i (denG S d lg f 0 0 * denGProd S d lg (q :: rest') 0 0)
      rw [Di_mul]

/-- the four-way split of the factors of a product used by `Grad.eval` -/
theorem prod_split (S : DRing K) (d : Nat) (lg : Bool) (as : List E) (i j : Nat) :
    denGProd S d lg as i j
      = denGProd S d lg ((as.filter (isComm d)).filter Calc.isNumber) i j
        * (denGProd S d lg ((as.filter (isComm d)).filter (fun x => !Calc.isNumber x && !hasF x)) i j
        * (denGProd S d lg (as.filter (fun x => isComm d x && !Calc.isNumber x && hasF x)) i j
        * denGProd S d lg (as.filter (fun x => !isComm d x)) i j)) := by
  rw [denGProd_filter S d lg (isComm d) as i j,
    denGProd_filter S d lg Calc.isNumber (as.filter (isComm d)) i j,
    denGProd_filter S d lg hasF ((as.filter (isComm d)).filter (fun a => !Calc.isNumber a)) i j]
  have e1 : ((as.filter (isComm d)).filter (fun a => !Calc.isNumber a)).filter hasF
      = as.filter (fun x => isComm d x && !Calc.isNumber x && hasF x) := by
    rw [List.filter_filter, List.filter_filter]
    exact List.filter_congr (fun x _ => by cases isComm d x <;> cases Calc.isNumber x <;> cases hasF x <;> rfl)
  have e2 : ((as.filter (isComm d)).filter (fun a => !Calc.isNumber a)).filter (fun a => !hasF a)
      = (as.filter (isComm d)).filter (fun x => !Calc.isNumber x && !hasF x) := by
    rw [List.filter_filter]
    exact List.filter_congr (fun x _ => by cases Calc.isNumber x <;> cases hasF x <;> rfl)
  rw [e1, e2]
  ring

theorem intLit_some {e : E} {n : Int} (h : PD.intLit e = some n) : e = num n 1 := by
  cases e with
  | num p q =>
    match q, h with
    | 0, h => simp [PD.intLit] at h
    | 1, h => simp [PD.intLit] at h; subst h; rfl
    | (q + 2), h => simp [PD.intLit] at h
  | _ => simp [PD.intLit] at h

theorem Scal_predExp (d : Nat) (e : E) (h : Scal d e = true) : Scal d (predExp e) = true := by
  unfold predExp
  split
  · rfl
  · exact (Scal_add d _).mpr (forall_mem2 h rfl)

/-- what `Grad.eval` returns on a scalar expression has the shape `GI` and denotes the gradient
    node around the expression: sum rule; product rule with its four-way split of the factors
    into numbers, function-free, function-bearing and non-commutative ones; power rule for
    integer, constant and variable exponents -/
theorem gradEval_spec (S : DRing K) (d : Nat) (lg : Bool) (e : E)
    (hs : Scal d e = true) (hnd : NonDegG S d lg e) (r : E) (h : gradEval d e = .ok r) :
    GI d r ∧ ∀ i j, denG S d lg r i j = denG S d lg (op1 .grad e) i j := by
  induction e using E.induction generalizing r with
  | add as ih =>
    rw [gradEval_add] at h
    have hs' := (Scal_add d as).mp hs
    have hnd' := (NonDegG_add S d lg as).mp hnd
    have hsr := Scal_addOf d (as.filter (fun x => !hasF x)) (fun a ha => hs' a (List.mem_filter.mp ha).1)
    exact ⟨addBranch_GI d .grad (gradEval d) as (GI_grad d _ hs) (GI_grad d _ hsr)
        (fun a ha r hr => (ih a ha (hs' a ha) (hnd' a ha) r hr).1) r h,
      addBranch_sound S d lg .grad _ (grad_lin S lg) (gradEval d) as
        (fun a ha => grad_is S d lg a (hs' a ha)) (grad_is S d lg _ hs) (grad_is S d lg _ hsr) hnd
        (fun a ha r hr => (ih a ha (hs' a ha) (hnd' a ha) r hr).2) r h⟩
  | mul as ih =>
    have hs' := (Scal_mul d as).mp hs
    have hnd' := (NonDegG_mul S d lg as).mp hnd
    simp only [gradEval, gradEvalListE_eq] at h
    split at h
    · exact ⟨numOrNode_GI d .grad _ (GI_grad d _ hs) _ r h,
        numOrNode_sound S d lg .grad _ (grad_lin S lg) _ (grad_is S d lg _ hs) hnd _
          (fun hb => by simpa [PD.isNumber] using hb) r h⟩
    · rw [zip_map_filter (fun x => isComm d x && !Calc.isNumber x && hasF x)] at h
      simp only [map_fst_pair] at h
      -- the four groups of factors: numbers `cs`, function-free `fr`, function-bearing `cf`,
      -- non-commutative `nc`; their values A, B, C, N are index-free and A is constant
      have hsplit := prod_split S d lg as 0 0
      have m1 : ∀ a ∈ (as.filter (isComm d)).filter Calc.isNumber, a ∈ as ∧ PD.isNumber a = true :=
        fun a ha => ⟨(List.mem_filter.mp (List.mem_filter.mp ha).1).1, (List.mem_filter.mp ha).2⟩
      have m2 : ∀ a ∈ (as.filter (isComm d)).filter (fun x => !Calc.isNumber x && !hasF x), a ∈ as :=
        fun a ha => (List.mem_filter.mp (List.mem_filter.mp ha).1).1
      have m3 : ∀ a ∈ as.filter (fun x => isComm d x && !Calc.isNumber x && hasF x), a ∈ as :=
        fun a ha => (List.mem_filter.mp ha).1
      have m4 : ∀ a ∈ as.filter (fun x => !isComm d x), a ∈ as := fun a ha => (List.mem_filter.mp ha).1
      generalize (as.filter (isComm d)).filter Calc.isNumber = cs at h hsplit m1
      generalize (as.filter (isComm d)).filter (fun x => !Calc.isNumber x && !hasF x) = fr at h hsplit m2
      generalize as.filter (fun x => isComm d x && !Calc.isNumber x && hasF x) = cf at h hsplit m3
      generalize as.filter (fun x => !isComm d x) = nc at h hsplit m4
      have hscal : ∀ (l : List E), (∀ a ∈ l, a ∈ as) → Scal d (Calc.mulOf l) = true :=
        fun l hl => Scal_mulOf d l (fun a ha => hs' a (hl a ha))
      have hval : ∀ (l : List E), (∀ a ∈ l, a ∈ as) → ∀ i j,
          denG S d lg (Calc.mulOf l) i j = denGProd S d lg l 0 0 := fun l hl i j => by
        rw [denG_mulOf, denGProd_scal_free S d lg l (fun a ha => hs' a (hl a ha))]
      have hcs : ∀ a ∈ cs, a ∈ as := fun a ha => (m1 a ha).1
      have hDA : ∀ i, Di S lg i (denGProd S d lg cs 0 0) = 0 := fun i =>
        DG_prod_numbers S d lg _ cs (fun a ha => (m1 a ha).2) (fun a ha => hnd' a (hcs a ha)) 0 0
      have hdb : ∀ v, gradProd (cf.map (fun a => (a, gradEval d a))) = .ok v →
          GI d v ∧ ∀ i j, denG S d lg v i j = Di S lg i (denGProd S d lg cf 0 0) := by
        intro v hv
        refine gradProd_spec S d lg (gradEval d) cf (fun a ha => ?_) v hv
        have ha' := m3 a ha
        refine ⟨hs' a ha', fun r hr => ?_⟩
        obtain ⟨g, s⟩ := ih a ha' (hs' a ha') (hnd' a ha') r hr
        exact ⟨g, fun i j => by rw [s, denG_grad_scal S d lg a (hs' a ha')]⟩
      have hgoal : ∀ i j, denG S d lg (op1 .grad (mul as)) i j = Di S lg i
          (denGProd S d lg cs 0 0 * (denGProd S d lg fr 0 0
            * (denGProd S d lg cf 0 0 * denGProd S d lg nc 0 0))) := fun i j => by
        rw [denG_grad_scal S d lg _ hs, ← hsplit]
        simp only [denG]
      have hA := WF_scal d _ (hscal cs hcs)
      split at h
      · -- a non-commutative factor: everything but the numbers stays under an unevaluated Grad
        injection h with h; subst h
        have hS : Scal d (mul [Calc.mulOf fr, Calc.mulOf cf, Calc.mulOf nc]) = true :=
          (Scal_mul d _).mpr (forall_mem3 (hscal fr m2) (hscal cf m3) (hscal nc m4))
        refine ⟨GI_mul d _ (forall_mem2 hA (GI_grad d _ hS).wf), fun i j => ?_⟩
        rw [hgoal, denG_mul2, hval cs hcs, denG_grad_scal S d lg _ hS, denG_mul3, hval fr m2,
          hval cf m3, hval nc m4, Di_smul S lg i _ _ (hDA i)]
      · rename_i hnc
        have hnc' : nc = [] := by simpa using hnc
        simp only [hnc', denGProd, mul_one] at hgoal
        split at h
        · -- function-free factors `fr` next to the function-bearing ones
          obtain ⟨db2, hdb2, h⟩ := bind_ok h
          injection h with h; subst h
          obtain ⟨g, sg⟩ := hdb db2 hdb2
          refine ⟨GI_add d _ (forall_mem2
            (GI_mul d _ (forall_mem3 hA (WF_scal d _ (hscal fr m2)) g.wf))
            (GI_mul d _ (forall_mem3 hA (GI_grad d _ (hscal fr m2)).wf (WF_scal d _ (hscal cf m3))))),
            fun i j => ?_⟩
          rw [hgoal, denG_add2, denG_mul3, denG_mul3, hval cs hcs, hval fr m2, hval cf m3, sg,
            denG_grad_scal S d lg _ (hscal fr m2), hval fr m2, Di_smul S lg i _ _ (hDA i), Di_mul]
          ring
        · rename_i hfe
          have hfe' : fr = [] := by simpa using hfe
          simp only [hfe', denGProd, one_mul] at hgoal
          split at h
          · obtain ⟨db2, hdb2, h⟩ := bind_ok h
            injection h with h; subst h
            obtain ⟨g, sg⟩ := hdb db2 hdb2
            refine ⟨GI_mul d _ (forall_mem2 hA g.wf), fun i j => ?_⟩
            rw [hgoal, denG_mul2, hval cs hcs, sg, Di_smul S lg i _ _ (hDA i)]
          · rename_i hce
            injection h with h; subst h
            have hce' : cf = [] := by simpa using hce
            refine ⟨GI_zero d, fun i j => ?_⟩
            rw [hgoal, hce', denG_zero]
            simp only [denGProd, mul_one]
            exact (hDA i).symm
  | pow b e ihb ihe =>
    obtain ⟨hsb, hse⟩ := (Scal_pow d b e).mp hs
    have hndb : NonDegG S d lg b := by simp only [NonDegG] at hnd; exact hnd.2.1
    have hnde : NonDegG S d lg e := by simp only [NonDegG] at hnd; exact hnd.2.2
    have hfb := Scal_free S d lg b hsb
    have hfe := Scal_free S d lg e hse
    simp only [gradEval] at h
    split at h
    · exact ⟨numOrNode_GI d .grad _ (GI_grad d _ hs) _ r h,
        numOrNode_sound S d lg .grad _ (grad_lin S lg) _ (grad_is S d lg _ hs) hnd _
          (fun hb => by simpa [PD.isNumber, Calc.isNumber] using hb) r h⟩
    · obtain ⟨gb, hgb, h⟩ := bind_ok h
      obtain ⟨gib, sb⟩ := ihb hsb hndb gb hgb
      have hb : ∀ i j, denG S d lg gb i j = Di S lg i (denG S d lg b 0 0) :=
        fun i j => by rw [sb, denG_grad_scal S d lg b hsb]
      have ht1 : GI d (mul [e, gb, pow b (predExp e)]) :=
        GI_mul d _ (forall_mem3 (WF_scal d _ hse) gib.wf
          (WF_scal d _ ((Scal_pow d _ _).mpr ⟨hsb, Scal_predExp d e hse⟩)))
      have hgoal : ∀ i j, denG S d lg (op1 .grad (pow b e)) i j
          = S.D (Coord.ofIdx lg i) (powSem S (denG S d lg b 0 0) e (denG S d lg e 0 0)) := fun i j => by
        rw [denG_grad_scal S d lg _ hs]
        simp only [denG, Di]
      cases hl : PD.intLit e with
      | some n =>
        -- integer literal exponent: n * b^(n-1) * grad b
        have hnum : Calc.isNumber e = true := by rw [intLit_some hl]; rfl
        rw [hnum] at h
        simp only [if_true] at h
        injection h with h; subst h
        refine ⟨ht1, fun i j => ?_⟩
        have hp : predExp e = num (n - 1) 1 := by simp [predExp, hl]
        have hunit : ∀ m, n = Int.negSucc m → denG S d lg b 0 0 * S.inv (denG S d lg b 0 0) = 1 := by
          intro m hm
          have := hnd.1
          rw [hl, hm] at this
          exact this 0 0
        have he : denG S d lg e 0 0 = (n : K) := by
          rw [intLit_some hl]; simp [denG]
        rw [hgoal, D_powSem_int S _ (denG S d lg b 0 0) e (denG S d lg e 0 0) n hl hunit,
          denG_mul3, hb, hfe i j, hp]
        simp only [denG]
        rw [hfb i j, he, powSem_int S _ _ _ 0 (n - 1) (intLit_num _)]
        simp only [Di]
        ring
      | none =>
        have hunit : denG S d lg b 0 0 * S.inv (denG S d lg b 0 0) = 1 := by
          have := hnd.1
          rw [hl] at this
          exact this 0 0
        have hp : predExp e = add [e, num (-1) 1] := by simp [predExp, hl]
        have hpe : ∀ x y, powSem S x e y = S.rpow x y := by
          intro x y; unfold powSem; rw [hl]
        have hpp : ∀ x y, powSem S x (add [e, num (-1) 1]) y = S.rpow x y := fun x y => rfl
        have hm1 : algebraMap ℚ K (((-1 : ℤ) : ℚ) / ((1 : ℕ) : ℚ)) = -1 := by simp
        -- the value of the first term `e * grad b * b^(e-1)`
        have h1 : ∀ i j, denG S d lg (mul [e, gb, pow b (predExp e)]) i j
            = denG S d lg e 0 0 * (Di S lg i (denG S d lg b 0 0)
              * (S.rpow (denG S d lg b 0 0) (denG S d lg e 0 0) * S.inv (denG S d lg b 0 0))) := by
          intro i j
          rw [denG_mul3, hb, hp]
          simp only [denG, denGSum, add_zero]
          rw [hfe i j, hfb i j, hpp, hm1, S.rpow_pred _ _ hunit]
        split at h
        · rename_i hnum
          injection h with h; subst h
          refine ⟨ht1, fun i j => ?_⟩
          rw [hgoal, h1, hpe, S.D_rpow, DG_isNumber S d lg _ e hnum hnde 0 0]
          simp only [Di]
          ring
        · obtain ⟨ge, hge, h⟩ := bind_ok h
          injection h with h; subst h
          obtain ⟨gie, se⟩ := ihe hse hnde ge hge
          refine ⟨GI_add d _ (forall_mem2 ht1 (GI_mul d _ (forall_mem3
            (WF_scal d _ (show Scal d (fn "log" b) = true from hsb)) (WF_scal d _ hs) gie.wf))),
            fun i j => ?_⟩
          rw [hgoal, denG_add2, h1, denG_mul3, se, denG_grad_scal S d lg e hse, hpe, S.D_rpow]
          simp only [denG]
          rw [hfe i j, hfb i j, hpe]
          simp only [Di]
          ring
  | _ =>
    simp only [gradEval] at h
    exact ⟨leafBranch_GI d .grad _ (GI_grad d _ hs) r h,
      leafBranch_sound S d lg .grad _ (grad_lin S lg) _ (grad_is S d lg _ hs) hnd r h⟩

/-- **Grad of a scalar expression** — sum, constant-factor, product and power rules (integer,
    constant and variable exponents): whatever `grad(e)` returns denotes the gradient of `e`. -/
theorem gradEval_sound (S : DRing K) (d : Nat) (lg : Bool) (e : E)
    (hs : Scal d e = true) (hnd : NonDegG S d lg e) (r : E) (h : gradEval d e = .ok r) :
    ∀ i j, denG S d lg r i j = Di S lg i (denG S d lg e 0 0) := by
  intro i j
  rw [(gradEval_spec S d lg e hs hnd r h).2 i j, denG_grad_scal S d lg e hs]

end Sympde

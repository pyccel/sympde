/-
  C12 — results depend only on inputs: no leakage from history, cache or hash seed.
  Property theorems only (definitions and helper lemmas: Model/Memo.lean, Lemmas/Memo.lean,
  Lemmas/Union.lean; the identity table `Gen.identity` is regenerated from the live classes on
  every run).

  What is a theorem here and what is learnt: the theorems hold for EVERY function `F`, every key
  function and every history; that sympde's entry points are "field-parametric" functions whose read
  sets are the `reads` column of the table is learnt by differential execution (harness), not proved.
-/
import SympdeModel.Lemmas.Memo
import SympdeModel.Gen.Identity
namespace Sympde.Memo
open USet

section
variable {φ κ α ρ : Type} [DecidableEq φ] [DecidableEq κ]

/-- **memoisation is transparent for every history** when the function reads nothing beyond the
    key: after ANY sequence of calls (of any functions on any objects), cache clears and switches of
    the cache, starting from ANY consistent table, a call returns exactly the function's value. -/
theorem memo_transparent_from (key : α → κ) (F : φ → α → ρ) (hk : KeyDetermined key F)
    (s : State φ κ ρ) (hs : Consistent key F s.table) (h : List (Op φ α)) (f : φ) (o : α) :
    (step key F (exec key F s h) (.call f o)).2 = some (F f o) := by
  have hc := consistent_exec key F s h hs
  generalize exec key F s h = s' at hc
  simp only [step]
  split
  · cases hl : lookup s'.table (f, key o) with
    | none => rfl
    | some r =>
      obtain ⟨o', hk', hv⟩ := hc _ (lookup_mem _ _ _ hl)
      simp only at hk' hv
      simp only []
      rw [← hv, hk f o' o hk']
  · rfl

theorem memo_transparent (key : α → κ) (F : φ → α → ρ) (hk : KeyDetermined key F)
    (h : List (Op φ α)) (f : φ) (o : α) : run key F h (.call f o) = some (F f o) :=
  memo_transparent_from key F hk init (by intro e he; cases he) h f o

/-- **the criterion is exact**: as soon as two objects with the same key have different values,
    the one-call history exhibits a leak — the second call returns the value of the first object. -/
theorem memo_leak (key : α → κ) (F : φ → α → ρ) (f : φ) (o₁ o₂ : α) (hkey : key o₁ = key o₂)
    (hne : F f o₁ ≠ F f o₂) :
    run key F [.call f o₁] (.call f o₂) = some (F f o₁) ∧
      run key F [.call f o₁] (.call f o₂) ≠ some (F f o₂) := by
  have : run key F [.call f o₁] (.call f o₂) = some (F f o₁) := by
    simp [run, exec, step, init, lookup, hkey]
  exact ⟨this, by rw [this]; intro h; exact hne (Option.some.inj h)⟩

/-- transparency for all histories ⟺ the function is determined by the key -/
theorem memo_transparent_iff (key : α → κ) (F : φ → α → ρ) :
    (∀ (h : List (Op φ α)) f o, run key F h (.call f o) = some (F f o)) ↔ KeyDetermined key F := by
  constructor
  · intro H f o₁ o₂ hkey
    apply Classical.byContradiction
    intro hne
    exact (memo_leak key F f o₁ o₂ hkey hne).2 (H _ f o₂)
  · intro hk h f o; exact memo_transparent key F hk h f o

/-- with the cache switched off, or right after `clear_cache()`, every function is computed
    afresh — whatever it reads and whatever happened before -/
theorem cache_off_transparent (key : α → κ) (F : φ → α → ρ) (h : List (Op φ α)) (f : φ) (o : α) :
    run key F (h ++ [.cacheOff]) (.call f o) = some (F f o) ∧
    run key F (h ++ [.clear]) (.call f o) = some (F f o) := by
  have e1 : ∀ (s : State φ κ ρ) (ops : List (Op φ α)) (op : Op φ α),
      exec key F s (ops ++ [op]) = (step key F (exec key F s ops) op).1 := by
    intro s ops op
    induction ops generalizing s with
    | nil => rfl
    | cons x xs ih => exact ih _
  constructor
  · simp [run, e1, step]
  · simp only [run, e1, step]
    split <;> simp [lookup]

end

/-! ### the identity table -/

/-- **`leaks t = []` implies key-determinedness** for functions that read the object only through
    the attributes the table lists for them: if every attribute read by some entry point takes part
    in `==`/`hash`, no entry point can tell two objects with the same key apart. -/
theorem leaks_complete {V ρ : Type} (t : List Row) (hl : leaks t = [])
    (key : (String → V) → List (String × V))
    (hkey : ∀ o₁ o₂, key o₁ = key o₂ → ∀ a, InKey t a → o₁ a = o₂ a)
    (F : String → (String → V) → ρ)
    (hF : ∀ f o₁ o₂, (∀ a, Reads t f a → o₁ a = o₂ a) → F f o₁ = F f o₂) :
    KeyDetermined key F := by
  intro f o₁ o₂ hk
  apply hF
  intro a ⟨r, hr, ha, hf⟩
  apply hkey o₁ o₂ hk a
  refine ⟨r, hr, ha, ?_⟩
  have hnot : r.leaks = false := by
    cases hlk : r.leaks
    · rfl
    · have : r ∈ leaks t := List.mem_filter.mpr ⟨hr, hlk⟩
      rw [hl] at this; cases this
  have hne : r.reads.isEmpty = false := by
    cases hre : r.reads with
    | nil => rw [hre] at hf; cases hf
    | cons _ _ => rfl
  simp only [Row.leaks, hne, Bool.not_false, Bool.and_true] at hnot
  exact hnot

/-- hence, for such functions, a table without leaks makes memoisation transparent for every history -/
theorem no_leak_transparent {V ρ : Type} (t : List Row) (hl : leaks t = [])
    (key : (String → V) → List (String × V)) [DecidableEq V]
    (hkey : ∀ o₁ o₂, key o₁ = key o₂ → ∀ a, InKey t a → o₁ a = o₂ a)
    (F : String → (String → V) → ρ)
    (hF : ∀ f o₁ o₂, (∀ a, Reads t f a → o₁ a = o₂ a) → F f o₁ = F f o₂)
    (h : List (Op String (String → V))) (f : String) (o : String → V) :
    run key F h (.call f o) = some (F f o) :=
  memo_transparent key F (leaks_complete t hl key hkey F hF) h f o

/-- conversely a leaking row names an attribute that an entry point reads and the key ignores -/
theorem leaks_sound (t : List Row) (r : Row) (h : r ∈ leaks t) :
    r ∈ t ∧ r.eq = true ∧ r.hashEq = true ∧ r.reads ≠ [] := by
  obtain ⟨hm, hl⟩ := List.mem_filter.mp h
  simp only [Row.leaks, Bool.and_eq_true, Bool.not_eq_true', List.isEmpty_eq_false_iff] at hl
  exact ⟨hm, hl.1.1, hl.1.2, hl.2⟩

/-- **the table regenerated from the live classes leaks exactly in the known rows** (each is an
    open finding of C12 with a deterministic witness).  This statement is re-checked by the kernel
    against what the code says now: a new attribute that is read but not compared — or a repaired
    one — changes `Gen.identity` and stops this theorem from compiling. -/
theorem identity_table_ok : leaks Gen.identity = Known.leaks := by decide +kernel

/-! ### order of supply: sorted sets -/

/-- **argument-order independence of every "sort a set by str" site** (unions, connectivity
    names, operands ordered by `str`): permuted supplies give the same canonical list -/
theorem canon_perm {β : Type} [DecidableEq β] (key : β → String) (l₁ l₂ : List β)
    (hp : l₁.Perm l₂) (inj : KeyInj key l₁) : canon key l₁ = canon key l₂ :=
  canon_ext key l₁ l₂ inj (fun _ => hp.mem_iff)

/-- **hash-seed independence**: whatever order (and multiplicity) the iteration of the set delivers
    — that is all a different `PYTHONHASHSEED` can change — the sorted result is the same -/
theorem canon_iteration_order {β : Type} [DecidableEq β] (key : β → String) (l σ : List β)
    (hσ : ∀ x, x ∈ σ ↔ x ∈ l) (inj : KeyInj key l) : sortBy key (dedup σ) = canon key l :=
  (canon_ext key l σ inj (fun x => (hσ x).symm)).symm

/-! ### computing a result does not alter its inputs -/

/-- an operation that leaves the store as it found it -/
def ReadOnly {σ ρ : Type} (op : HOp σ ρ) : Prop := ∀ s, (op.act s).2 = s

/-- **read-only histories are invisible**: after any number of read-only operations every later
    operation sees the store it would have seen in a fresh interpreter -/
theorem readonly_history_invisible {σ ρ : Type} (s : σ) (h : List (HOp σ ρ))
    (hro : ∀ op ∈ h, ReadOnly op) : execH s h = s := by
  induction h generalizing s with
  | nil => rfl
  | cons op ops ih =>
    simp only [execH]
    rw [hro op (by simp) s]
    exact ih s (fun o ho => hro o (List.mem_cons_of_mem _ ho))

theorem readonly_result {σ ρ : Type} (s : σ) (h : List (HOp σ ρ)) (hro : ∀ op ∈ h, ReadOnly op)
    (last : HOp σ ρ) : (last.act (execH s h)).1 = (last.act s).1 := by
  rw [readonly_history_invisible s h hro]

/-- and the hypothesis is needed: one writing operation (the old `Equation`, which stored the
    position of the unknown into the caller's `EssentialBC`) changes what a later reader sees -/
theorem writer_is_visible :
    let setPosition : HOp (Option Nat) (Option Nat) := ⟨fun _ => (none, some 1)⟩
    let readPosition : HOp (Option Nat) (Option Nat) := ⟨fun s => (s, s)⟩
    (readPosition.act (execH none [setPosition])).1 ≠ (readPosition.act none).1 := by
  decide

/-! ### non-vacuity -/

-- a key-determined function (it returns the key) and a leaking one (it returns the hidden attribute)
example : KeyDetermined (fun (o : Nat × String) => o.1) (fun (_ : Nat) (o : Nat × String) => o.1) := fun _ _ _ h => h
example : run (fun (o : Nat × String) => o.1) (fun (_ : Nat) (o : Nat × String) => o.2)
    [.call 0 (7, "2-D result")] (.call 0 (7, "3-D result")) = some "2-D result" := by decide +kernel
example : run (fun (o : Nat × String) => o.1) (fun (_ : Nat) (o : Nat × String) => o.2)
    [.call 0 (7, "2-D result"), .clear] (.call 0 (7, "3-D result")) = some "3-D result" := by decide +kernel
example : (leaks Gen.identity).length = 3 := congrArg List.length identity_table_ok
example : canon id ["b", "a", "b", "c"] = canon id ["c", "b", "a"] := by decide +kernel

end Sympde.Memo

/-
  C02 — "every rewriting the operator constructors apply on their own yields an expression denoting
  exactly the same field as the literal expression" — for the symbolic matrix layer
  sympde/calculus/matrices.py (anchor: Transpose / SymbolicTrace / MatSymbolicMul canonicalisation
  @ matrices.py:86-274).

  Model: Model/MatSym.lean (the constructors, branch for branch).  Semantics: Lemmas/MatSym.lean,
  `den v e : Matrix (Fin n) (Fin n) K` for an arbitrary size n, an arbitrary commutative ring K and
  an arbitrary valuation v of the Jacobian symbols (matrices), Constants and Symbols (ring elements);
  numbers are embedded as scalar matrices, so "coefficient * matrix" is the matrix product.

  Every theorem quantifies over ALL expressions / argument lists (no size or depth bound) and over
  every amount of recursion fuel.  Hypotheses, where a rewriting needs them:
    * `NegPowUnits v e` — every negative power occurring in e has an invertible base
      (sympy rewrites `A * A**-1` to `A**0` inside Transpose of a product);
    * `InvUnits v e`    — every `Inverse` node occurring in e is applied to an invertible matrix
      (`Inverse(Inverse(x))` is rewritten to `x`).
-/
import SympdeModel.Lemmas.MatSym
import Mathlib.LinearAlgebra.Matrix.Notation

namespace Sympde
namespace MatSym
open ME
open scoped Matrix

variable {n : ℕ} {K : Type} [CommRing K] (v : Val n K)

/-! ### the constructors denote the literal application -/

/-- Transpose.__new__: whatever it rewrites (T(T(y)) -> y, distribution over a sum with sympy's
    collection of like terms, coefficients pulled out of a product, neighbouring equal factors
    gathered into a power), the result denotes the transpose of the argument's value. -/
theorem transpose_sound (f : Nat) (a : ME) (h : NegPowUnits v a) :
    den v (mkTranspose f a) = (den v a)ᵀ := by
  induction f generalizing a with
  | zero => simp [mkTranspose, den]
  | succ f ih =>
    cases a with
    | transpose y => simp [mkTranspose, den]
    | add xs =>
      simp only [mkTranspose, den]
      rw [den_sympyAdd]
      exact denSum_map_hom v Matrix.transpose Matrix.transpose_zero Matrix.transpose_add _ xs
        (fun x hx => ih x (NegPowUnits.of_add v h x hx))
    | mul xs =>
      simp only [mkTranspose, den]
      rw [den_mkMul]
      simp only [denProd, den, mul_one]
      rw [den_scalMul v _ (fun x hx => (List.mem_filter.1 hx).2),
        den_sympyMulNC v f _ (fun x hx => NegPowUnits.of_mul v h x (List.mem_filter.1 hx).1),
        denProd_partition v comm xs (fun x _ hx => cen_of_comm v x hx), Matrix.transpose_mul]
      have hC : Cen (denProd v (xs.filter comm)) :=
        cen_denProd v _ (fun x hx => (List.mem_filter.1 hx).2)
      rw [hC.2]
      exact hC.1 _
    | _ => simp [mkTranspose, den]

/-- Inverse.__new__ (Inverse(Inverse(y)) -> y) denotes the inverse of the argument's value. -/
theorem inverse_sound (a : ME) (h : InvUnits v a) : den v (mkInverse a) = (den v a)⁻¹ := by
  cases a with
  | inv y =>
    simp only [mkInverse, den]
    exact (Matrix.nonsing_inv_nonsing_inv _ (h y (Sub.refl _))).symm
  | _ => simp [mkInverse, den]

/-- `.inv()` (JacobianSymbol.inv returns the inverse-Jacobian atom, whose value is by definition the
    inverse of the Jacobian's value; other matrices go through Inverse.__new__) -/
theorem method_inv_sound (a : ME) (h : InvUnits v a) : den v (methodInv a) = (den v a)⁻¹ := by
  cases a with
  | jac s => simp [methodInv, den]
  | inv y => exact inverse_sound v _ h
  | _ => simp [methodInv, mkInverse, den]

/-- MatSymbolicMul.__new__ (factors 1 dropped, distribution over the first sum — recursively —,
    nested products flattened, commutative factors moved to the front and multiplied by sympy):
    the result denotes the ORDERED product of the arguments' values. -/
theorem mul_sound (f : Nat) (xs : List ME) : den v (mkMul f xs) = (xs.map (den v)).prod := by
  rw [den_mkMul, denProd_eq]

/-- MatSymbolicAdd.__new__ (zeros dropped, nested sums flattened, arguments sorted): the sum of the
    arguments' values. -/
theorem add_sound (xs : List ME) : den v (mkAdd xs) = (xs.map (den v)).sum := by
  rw [den_mkAdd, denSum_eq]

/-- the value of a sum does not depend on the order of its arguments (the implementation sorts with
    `key=str`, the model with its own key; the differential run compares sums as multisets) -/
theorem add_order_irrelevant {xs ys : List ME} (h : xs.Perm ys) : den v (add xs) = den v (add ys) := by
  simp only [den]; exact denSum_perm v h

/-- `-a` = MatSymbolicMul(-1, a) -/
theorem neg_sound (f : Nat) (a : ME) : den v (mkNeg f a) = -den v a := by
  unfold mkNeg; rw [den_mkMul]; simp [denProd, den]

/-- `a - b` = MatSymbolicAdd(a, -b) -/
theorem sub_sound (f : Nat) (a b : ME) : den v (mkSub f a b) = den v a - den v b := by
  unfold mkSub; rw [den_mkAdd]; simp [denSum, neg_sound, sub_eq_add_neg]

/-- SymbolicTrace.__new__ (linearity over sums, numbers and Constants pulled out of a product, the
    remaining factors re-multiplied IN THEIR ORDER): the trace of the argument's value. -/
theorem trace_sound (f : Nat) (a : ME) :
    den v (mkTrace f a) = (den v a).trace • (1 : Matrix (Fin n) (Fin n) K) := by
  induction f generalizing a with
  | zero => simp [mkTrace, den]
  | succ f ih =>
    cases a with
    | add xs =>
      simp only [mkTrace, den]
      rw [den_sympyAdd]
      exact denSum_map_hom v (fun M => M.trace • (1 : Matrix (Fin n) (Fin n) K)) (by simp)
        (fun A B => by simp only [Matrix.trace_add, add_smul]) _ xs (fun x _ => ih x)
    | mul xs =>
      simp only [mkTrace]
      split
      · simp [den]
      · rw [den_scalTimes, ih, den_mkMul,
          den_scalMul v _ (fun x hx => comm_of_isCoeff (List.mem_filter.1 hx).2)]
        simp only [den]
        rw [denProd_partition v isCoeff xs (fun x _ hx => cen_of_comm v x (comm_of_isCoeff hx))]
        obtain ⟨κ, hκ⟩ := scalar_of_coeffs v (xs.filter isCoeff) (fun x hx => (List.mem_filter.1 hx).2)
        rw [hκ]
        simp [Matrix.trace_smul, smul_smul, mul_comm]
    | _ => simp [mkTrace, den]

/-- `a ** k` (MatSymbolicPow has no `__new__`), SymbolicDeterminant, MatrixElement: plain nodes -/
theorem pow_sound (a : ME) (k : Int) (r : Bool) : den v (mkPowOp a k r) = den v a ^ k := rfl
theorem det_sound (a : ME) : den v (mkDet a) = (den v a).det • (1 : Matrix (Fin n) (Fin n) K) := rfl
theorem elem_sound (a : ME) (i j : Nat) :
    den v (mkElem a i j) = entry (den v a) i j • (1 : Matrix (Fin n) (Fin n) K) := rfl

/-! ### the pieces of sympy the constructors call, as modelled -/

/-- `Add(*terms)` with collection of like terms and the MatSymbolicAdd post-processor -/
theorem sympy_add_sound (xs : List ME) : den v (sympyAdd xs) = (xs.map (den v)).sum := by
  rw [den_sympyAdd, denSum_eq]

/-- `Mul(*args)` on non-commutative factors (neighbours with equal bases become one power) -/
theorem sympy_mul_nc_sound (f : Nat) (xs : List ME) (h : ∀ x ∈ xs, NegPowUnits v x) :
    den v (sympyMulNC f xs) = (xs.map (den v)).prod := by
  rw [den_sympyMulNC v f xs h, denProd_eq]

/-- `Mul(*coeffs)` on commutative factors (reordered) -/
theorem sympy_mul_comm_sound (cs : List ME) (h : ∀ x ∈ cs, comm x = true) :
    den v (scalMul cs) = (cs.map (den v)).prod := by
  rw [den_scalMul v cs h, denProd_eq]

/-- an expression whose `is_commutative` flag is True denotes a matrix that commutes with every
    matrix and is symmetric — what the constructors rely on when they move such factors -/
theorem commutative_flag_sound (a : ME) (h : comm a = true) :
    (∀ N : Matrix (Fin n) (Fin n) K, Commute (den v a) N) ∧ (den v a)ᵀ = den v a :=
  cen_of_comm v a h

/-! ### consequences at the level of values -/

/-- transposition reverses the order of a product: whatever form Transpose returns for a product, its
    value is the product of the transposed factors in REVERSE order -/
theorem transpose_product_value (f : Nat) (xs : List ME) (h : NegPowUnits v (mul xs)) :
    den v (mkTranspose f (mul xs)) = (xs.reverse.map (fun x => (den v x)ᵀ)).prod := by
  rw [transpose_sound v f _ h]
  simp only [den, denProd_eq]
  rw [Matrix.transpose_list_prod, List.map_reverse, List.map_map]
  rfl

/-- transposing twice gives back the value -/
theorem transpose_transpose_value (f g : Nat) (a : ME) (h : NegPowUnits v a)
    (h' : NegPowUnits v (mkTranspose f a)) :
    den v (mkTranspose g (mkTranspose f a)) = den v a := by
  rw [transpose_sound v g _ h', transpose_sound v f a h, Matrix.transpose_transpose]

/-- transpose of an inverse = inverse of the transpose -/
theorem transpose_inverse_value (f : Nat) (a : ME) (h : NegPowUnits v a) :
    den v (mkTranspose f (inv a)) = (den v (mkTranspose f a))⁻¹ := by
  rw [transpose_sound v f a h, transpose_sound v f (inv a)
    (fun b k r hs hk => by cases hs with | inv hs' => exact h b k r hs' hk)]
  simp only [den]
  exact Matrix.transpose_nonsing_inv _

/-- tr(Aᵀ) = tr(A) -/
theorem trace_transpose_value (f g : Nat) (a : ME) (h : NegPowUnits v a) :
    den v (mkTrace f (mkTranspose g a)) = den v (mkTrace f a) := by
  rw [trace_sound, trace_sound, transpose_sound v g a h, Matrix.trace_transpose]

/-- tr(A*B) = tr(B*A): the trace of a product of TWO factors does not depend on their order ... -/
theorem trace_two_factors_value (f : Nat) (a b : ME) :
    den v (mkTrace f (mul [a, b])) = den v (mkTrace f (mul [b, a])) := by
  rw [trace_sound, trace_sound]
  simp only [den, denProd, mul_one]
  rw [Matrix.trace_mul_comm]

/-! ### ... but sorting THREE factors inside a trace changes the value (seeded change C02-4) -/

/-- the three matrices of the counterexample: A = [[1,2],[3,5]], B = [[2,-1],[1,1]], C = [[1,1],[4,3]] -/
def v0 : Val 2 ℤ where
  cst := fun _ => 1
  sy := fun _ => 1
  jm := fun s => if s = "A" then !![1, 2; 3, 5] else if s = "B" then !![2, -1; 1, 1] else !![1, 1; 4, 3]

/-- `tr(A*C*B)` as SymbolicTrace builds it (factors kept in order, value 20) and the trace of the
    same factors sorted by name, `tr(A*B*C)` (value 25), differ: a SymbolicTrace that "keeps the
    factors in a canonical order because tr(AB) = tr(BA)" violates C02. -/
theorem trace_sorted_factors_counterexample :
    den v0 (mkTrace 9 (mul [jac "A", jac "C", jac "B"])) ≠
      den v0 (tr (mul [jac "A", jac "B", jac "C"])) := by
  rw [trace_sound]
  intro h
  have h00 := congrFun (congrFun h 0) 0
  simp [den, denProd, v0, Matrix.trace, Fin.sum_univ_two] at h00

/-! ### non-vacuity: the model really rewrites -/

example : beq (mkTrace 9 (mul [num 2, jac "A", jac "C", jac "B"]))
    (mul [num 2, tr (mul [jac "A", jac "C", jac "B"])]) = true := by decide
example : beq (mkTranspose 9 (transpose (jac "A"))) (jac "A") = true := by decide
example : beq (mkTranspose 9 (mul [num 2, jac "A", jac "A", jac "B"]))
    (mul [num 2, transpose (mul [pow (jac "A") 2 false, jac "B"])]) = true := by decide
example : beq (mkTrace 9 (add [jac "A", jac "A"])) (mul [num 2, tr (jac "A")]) = true := by decide
example : beq (mkTranspose 9 (add [jac "B", mul [num 3, jac "A"]]))
    (add [transpose (jac "B"), mul [num 3, transpose (jac "A")]]) = true := by decide
example : transposeRaises 9 (mul [pow (jac "A") 2 true, pow (jac "A") 3 true]) = true := by decide
example : beq (mkInverse (inv (mul [jac "A", jac "B"]))) (mul [jac "A", jac "B"]) = true := by decide
example : beq (mkMul 9 [jac "A", mul [jac "B", jac "C"]]) (mul [jac "A", jac "B", jac "C"]) = true := by
  decide

end MatSym
end Sympde

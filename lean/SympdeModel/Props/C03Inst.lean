/-
  C03 — non-vacuity of `PB.logical_sound`.

  `logical_sound` (Props/C03.lean) is stated for every pair of differential rings related by
  `PB.MapRel` and every `FnTable`.  Here the hypotheses are met by an explicit pair on the
  polynomial ring `PolyC = ℂ[x, y, z, x1, x2, x3]` (Lemmas/PullbackInst.lean) for the
  non-trivial affine mapping of the plane

        F(x1, x2) = (2·x1 + x2, x2),     J = [[2, 1], [0, 1]],     det J = 2,

  for *arbitrary* logical fields `sfv`, `vfv` (polynomials), constants, parameters and every
  assignment `κs`, `κv` of space kinds; the Jacobian is the one the model itself computes
  (`jacOf`).  Then `logical_sound` is applied to concrete expressions (second derivatives, an
  L2 function, the divergence of an H(div) field, the rot of an H(curl) field) and the two
  denotations are identified with explicit polynomial expressions.

  Only property-level statements and non-vacuity examples; the construction is in
  Lemmas/PullbackInst.lean.
-/
import SympdeModel.Props.C03
import SympdeModel.Lemmas.PullbackInst
open MvPolynomial
namespace Sympde.PB
open E PD PBInst

section
variable (sfv : String → PolyC) (vfv : String → Nat → PolyC) (cstv par : String → ℂ)
  (κs κv : String → Kind)

/-- the Jacobian used below is the one the model computes for `F = (2·x1 + x2, x2)` -/
theorem affine2_jacOf :
    jacOf { name := "", d := 2, F := [add [mul [num 2 1, sym "x1"], sym "x2"], sym "x2"] } = .ok jj :=
  jacOf_M2

/-- **Non-vacuity of the hypotheses of `logical_sound`.**  For the affine mapping
    `F = (2·x1 + x2, x2)`, all logical fields, all constants/parameters and all kinds:
    the logical reading `SL` and the physical reading `SP` are related by `MapRel`, and the
    derivative table of the elementary functions holds. -/
theorem affine2_mapRel :
    MapRel (SL sfv vfv cstv par) (SP sfv vfv cstv par κs κv) "" jj Fn κs κv :=
  mapRel sfv vfv cstv par κs κv

theorem affine2_fnTable : FnTable (SL sfv vfv cstv par) := mkRing_fnTable _ _ _ _ _ _

/-- the physical reading really is "the expression at the image point": its coordinates are the
    components of `F`, its operators are `J⁻ᵀ ∇̂`, and `dx x = 1`, `dy x = 0`, `dx y = 0`, `dy y = 1` -/
theorem affine2_physical (k : PolyC) :
    (SP sfv vfv cstv par κs κv).sym "x" = 2 * X .x1 + X .x2 ∧
    (SP sfv vfv cstv par κs κv).sym "y" = X .x2 ∧
    (SP sfv vfv cstv par κs κv).D .x k = half * pderiv .x1 k ∧
    (SP sfv vfv cstv par κs κv).D .y k = -half * pderiv .x1 k + pderiv .x2 k ∧
    (2 : PolyC) * half = 1 :=
  ⟨SP_sym_x .., SP_sym_y .., SP_Dx .., SP_Dy .., two_mul_half⟩

/-- `logical_sound` for this mapping: every expression of the fragment, every result -/
theorem affine2_sound (e r : E) (hf : Frag 2 κs κv e = true) (hn : NonDeg (SP sfv vfv cstv par κs κv) e)
    (h : logical "" jj Fn e = .ok r) :
    ∀ a b, den (SL sfv vfv cstv par) r a b = den (SP sfv vfv cstv par κs κv) e a b :=
  logical_sound _ _ (affine2_fnTable sfv vfv cstv par) "" jj Fn κs κv
    (affine2_mapRel sfv vfv cstv par κs κv) e r hf hn h

end

/-! ### concrete expressions -/

/-- kinds used by the examples: `p ∈ L2`, every other scalar function in `H1`;
    `w ∈ H(div)`, `E ∈ H(curl)`, every other vector function of undefined kind -/
def κs0 (s : String) : Kind := if s = "p" then .l2 else .h1
def κv0 (s : String) : Kind := if s = "w" then .hdiv else if s = "E" then .hcurl else .undef

section
variable (sfv : String → PolyC) (vfv : String → Nat → PolyC) (cstv par : String → ℂ)

/-- the shape of the examples below: the transformed expression exists, both readings agree
    (`affine2_sound`), and their common value is the physical reading computed by hand -/
theorem affine2_example (e r : E) (hf : Frag 2 κs0 κv0 e = true) (hn : NonDeg (SP sfv vfv cstv par κs0 κv0) e)
    (h : logical "" jj Fn e = .ok r) (v : PolyC) (hv : ∀ a b, den (SP sfv vfv cstv par κs0 κv0) e a b = v) :
    ∃ r, logical "" jj Fn e = .ok r ∧
      ∀ a b, den (SL sfv vfv cstv par) r a b = den (SP sfv vfv cstv par κs0 κv0) e a b ∧
        den (SL sfv vfv cstv par) r a b = v :=
  ⟨r, h, fun a b =>
    have key := affine2_sound sfv vfv cstv par κs0 κv0 e r hf hn h a b
    ⟨key, key.trans (hv a b)⟩⟩

/-- `x · ∂x ∂y u`, `u ∈ H1`: the transformed expression exists and both readings are
    `(2·x1 + x2) · ½ ∂̂₁(-½ ∂̂₁ û + ∂̂₂ û)` -/
theorem affine2_example_second_derivative :
    ∃ r, logical "" jj Fn (mul [sym "x", pd .x (pd .y (sf "u" .h1))]) = .ok r ∧
      ∀ a b, den (SL sfv vfv cstv par) r a b
          = den (SP sfv vfv cstv par κs0 κv0) (mul [sym "x", pd .x (pd .y (sf "u" .h1))]) a b ∧
        den (SL sfv vfv cstv par) r a b
          = (2 * X .x1 + X .x2) * (half * pderiv .x1 (-half * pderiv .x1 (sfv "u") + pderiv .x2 (sfv "u"))) :=
  affine2_example sfv vfv cstv par _ _ (by decide) (by simp [NonDeg, NonDegList]) rfl _ fun a b => by
    simp only [den, denProd, SP_sym_x, SP_Dx, SP_Dy, SP_sf, sfP, κs0, mul_one]
    simp

/-- the same with a concrete field `û = x1·x2`: both readings are the non-zero polynomial
    `(2·x1 + x2)/2` -/
theorem affine2_example_value :
    ∃ r, logical "" jj Fn (mul [sym "x", pd .x (pd .y (sf "u" .h1))]) = .ok r ∧
      ∀ a b, den (SL (fun _ => X .x1 * X .x2) vfv cstv par) r a b = (2 * X .x1 + X .x2) * half := by
  obtain ⟨r, hr, h⟩ := affine2_example_second_derivative (fun _ => X .x1 * X .x2) vfv cstv par
  refine ⟨r, hr, fun a b => ?_⟩
  rw [(h a b).2]
  simp [Derivation.leibniz, half]

/-- `p · y`, `p ∈ L2`: both readings are `(p̂ / 2) · x2` -/
theorem affine2_example_l2 :
    ∃ r, logical "" jj Fn (mul [sf "p" .l2, sym "y"]) = .ok r ∧
      ∀ a b, den (SL sfv vfv cstv par) r a b
          = den (SP sfv vfv cstv par κs0 κv0) (mul [sf "p" .l2, sym "y"]) a b ∧
        den (SL sfv vfv cstv par) r a b = sfv "p" * half * X .x2 :=
  affine2_example sfv vfv cstv par _ _ (by decide) (by simp [NonDeg, NonDegList]) rfl _ fun a b => by
    simp only [den, denProd, SP_sym_y, SP_sf, sfP, κs0, mul_one]
    simp

/-- `∂x w₀ + ∂y w₁`, `w ∈ H(div)` (the divergence written on components): both readings are
    `(∂̂₁ ŵ₀ + ∂̂₂ ŵ₁) / 2` — the contravariant Piola identity `div w = (1/det) div̂ ŵ` -/
theorem affine2_example_hdiv :
    ∃ r, logical "" jj Fn (add [pd .x (idx (vf "w" .hdiv) 0), pd .y (idx (vf "w" .hdiv) 1)]) = .ok r ∧
      ∀ a b, den (SL sfv vfv cstv par) r a b
          = den (SP sfv vfv cstv par κs0 κv0)
              (add [pd .x (idx (vf "w" .hdiv) 0), pd .y (idx (vf "w" .hdiv) 1)]) a b ∧
        den (SL sfv vfv cstv par) r a b
          = half * (pderiv .x1 (vfv "w" 0) + pderiv .x2 (vfv "w" 1)) :=
  affine2_example sfv vfv cstv par _ _ (by decide) (by simp [NonDeg, NonDegList]) rfl _ fun a b => by
    have k0 : κv0 "w" = .hdiv := by decide
    simp only [den, denSum, SP_Dx, SP_Dy, SP_vf, vfP, k0, add_zero, map_add,
      Derivation.leibniz, pderiv_two, pderiv_half, smul_eq_mul, mul_zero]
    linear_combination (half * pderiv .x1 (vfv "w" 0)) * two_mul_half

/-- `∂x E₁ − ∂y E₀`, `E ∈ H(curl)` (the scalar curl written on components): both readings are
    `(∂̂₁ Ê₁ − ∂̂₂ Ê₀) / 2` — the covariant Piola identity `rot E = (1/det) rot̂ Ê` -/
theorem affine2_example_hcurl :
    ∃ r, logical "" jj Fn (sub (pd .x (idx (vf "E" .hcurl) 1)) (pd .y (idx (vf "E" .hcurl) 0))) = .ok r ∧
      ∀ a b, den (SL sfv vfv cstv par) r a b
          = den (SP sfv vfv cstv par κs0 κv0)
              (sub (pd .x (idx (vf "E" .hcurl) 1)) (pd .y (idx (vf "E" .hcurl) 0))) a b ∧
        den (SL sfv vfv cstv par) r a b
          = half * (pderiv .x1 (vfv "E" 1) - pderiv .x2 (vfv "E" 0)) :=
  affine2_example sfv vfv cstv par _ _ (by decide) (by simp [sub, neg, NonDeg, NonDegList]) rfl _ fun a b => by
    have k0 : κv0 "E" = .hcurl := by decide
    simp only [den_sub, den_pd, den_idx_vf, SP_Dx, SP_Dy, SP_vf, vfP, k0, pderiv_half_mul, map_add,
      map_neg, neg_mul]
    ring

/-- `∂x (x³)` and `∂y (x³)` (a power of a coordinate, i.e. of a component of the mapping): both
    readings are `3·(2·x1 + x2)²`, resp. `0` -/
theorem affine2_example_pow :
    (∃ r, logical "" jj Fn (pd .x (pow (sym "x") (num 3 1))) = .ok r ∧
      ∀ a b, den (SL sfv vfv cstv par) r a b
          = den (SP sfv vfv cstv par κs0 κv0) (pd .x (pow (sym "x") (num 3 1))) a b ∧
        den (SL sfv vfv cstv par) r a b = 3 * (2 * X .x1 + X .x2) ^ 2) ∧
    (∃ r, logical "" jj Fn (pd .y (pow (sym "x") (num 3 1))) = .ok r ∧
      ∀ a b, den (SL sfv vfv cstv par) r a b
          = den (SP sfv vfv cstv par κs0 κv0) (pd .y (pow (sym "x") (num 3 1))) a b ∧
        den (SL sfv vfv cstv par) r a b = 0) := by
  have hp : ∀ (p : PolyC) c, pderiv c (p ^ 3) = 3 * p ^ 2 * pderiv c p := by
    intro p c
    rw [Derivation.leibniz_pow, nsmul_eq_mul, smul_eq_mul, mul_assoc, Nat.cast_ofNat]
  constructor
  · refine affine2_example sfv vfv cstv par _ _ (by decide) (by simp [NonDeg, intLit]) rfl _ fun a b => ?_
    simp only [den, powSem, intLit, SP_sym_x, SP_Dx, hp]
    simp only [map_add, Derivation.leibniz, pderiv_two, pderiv_X_self, pderiv_X_of_ne, smul_eq_mul, mul_zero,
      mul_one, add_zero, ne_eq, reduceCtorEq, not_false_eq_true]
    linear_combination (3 * (2 * X Coord.x1 + X Coord.x2) ^ 2 : PolyC) * two_mul_half
  · refine affine2_example sfv vfv cstv par _ _ (by decide) (by simp [NonDeg, intLit]) rfl _ fun a b => ?_
    simp only [den, powSem, intLit, SP_sym_x, SP_Dy, hp]
    simp only [map_add, Derivation.leibniz, pderiv_two, pderiv_X_self, pderiv_X_of_ne, smul_eq_mul, mul_zero,
      mul_one, add_zero, zero_add, ne_eq, reduceCtorEq, not_false_eq_true]
    linear_combination (-3 * (2 * X Coord.x1 + X Coord.x2) ^ 2 : PolyC) * two_mul_half

end
end Sympde.PB

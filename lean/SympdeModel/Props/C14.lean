/-
  C14 — unions of domains behave as canonical finite sets.
  Property theorems only (helper lemmas are in Lemmas/Union.lean).

  Standing hypothesis of the order-related theorems: `KeyInj Atom.key l` — on the members
  involved, `str` is injective (two members that print the same are the same member).  This is
  the name-hygiene convention of sympde (objects compare by class and name; identity by name is
  the subject of C12, not of C14).  `WFArg` says that a Union *object* passed as an argument
  is internally of one dimension — true of every object `Union.__new__` ever returned
  (`union_result_wf`).
-/
import SympdeModel.Lemmas.Union
namespace Sympde.USet

/-! ### set semantics of construction -/

/-- **Union(*args) is the set of all members of its arguments**, listed without repetition in
    increasing order of `str` — whatever the nesting, order and multiplicity of the arguments. -/
theorem union_set_semantics (args : List Arg) (r : Res) (h : mkUnion args = .ok r) :
    (∀ x, x ∈ r.members ↔ ∃ a ∈ args, x ∈ a.members) ∧ r.members.Nodup ∧
      Sorted Atom.key r.members := by
  obtain ⟨_, _, rfl⟩ := mkUnion_ok_inv args r h
  rw [members_pack]
  exact ⟨fun x => by rw [mem_canon, mem_flat], canon_nodup _ _, canon_sorted _ _⟩

/-- with hygienic names the listing is *strictly* increasing -/
theorem union_strictly_sorted (args : List Arg) (r : Res) (h : mkUnion args = .ok r)
    (inj : KeyInj Atom.key (flat args)) : StrictSorted Atom.key r.members := by
  obtain ⟨_, _, rfl⟩ := mkUnion_ok_inv args r h
  rw [members_pack]
  exact canon_strict _ _ inj

/-- **degenerate cases**: no member at all gives the null value (Python `None`) … -/
theorem union_empty (args : List Arg) (hb : NoBad args) (hu : Uniform args)
    (h : ∀ a ∈ args, a.members = []) : mkUnion args = .ok .null := by
  rw [mkUnion_ok args hb hu]
  have : canon Atom.key (flat args) = [] := by
    apply List.eq_nil_iff_forall_not_mem.mpr
    intro x hx
    obtain ⟨a, ha, hxa⟩ := (mem_flat args x).mp ((mem_canon _ _ x).mp hx)
    rw [h a ha] at hxa; cases hxa
  rw [this]; rfl

/-- … and a single member (however often and however deeply nested it is given) is returned
    as itself, not wrapped in a Union -/
theorem union_singleton (args : List Arg) (x : Atom) (hb : NoBad args) (hu : Uniform args)
    (h : ∀ y, (∃ a ∈ args, y ∈ a.members) ↔ y = x) : mkUnion args = .ok (.single x) := by
  rw [mkUnion_ok args hb hu]
  have : canon Atom.key (flat args) = canon Atom.key [x] := by
    symm
    apply canon_ext
    · intro a ha b hb' _
      simp at ha hb'; rw [ha, hb']
    · intro y; rw [mem_flat, h]; simp
  rw [this]; rfl

/-- **degenerate cases** (both halves; the name used in DESIGN.md) -/
theorem union_degenerate (args : List Arg) (hb : NoBad args) (hu : Uniform args) :
    ((∀ a ∈ args, a.members = []) → mkUnion args = .ok .null) ∧
    (∀ x, (∀ y, (∃ a ∈ args, y ∈ a.members) ↔ y = x) → mkUnion args = .ok (.single x)) :=
  ⟨union_empty args hb hu, fun x h => union_singleton args x hb hu h⟩

/-! ### order independence: equality, hash and printing are functions of `args` only, so it
    suffices that the *result* does not depend on the argument order -/

/-- two argument lists with the same verdicts of the type and dimension checks and the same
    set of members give the same result -/
theorem union_ext (a₁ a₂ : List Arg) (hb : NoBad a₁ ↔ NoBad a₂) (hu : Uniform a₁ ↔ Uniform a₂)
    (hm : ∀ x, (∃ a ∈ a₁, x ∈ a.members) ↔ (∃ a ∈ a₂, x ∈ a.members))
    (inj : KeyInj Atom.key (flat a₁)) : mkUnion a₁ = mkUnion a₂ := by
  by_cases h1 : NoBad a₁
  · by_cases h2 : Uniform a₁
    · rw [mkUnion_ok a₁ h1 h2, mkUnion_ok a₂ (hb.mp h1) (hu.mp h2)]
      congr 2
      apply canon_ext _ _ _ inj
      intro x; rw [mem_flat, mem_flat, hm]
    · rw [mkUnion_mixed a₁ h1 h2, mkUnion_mixed a₂ (hb.mp h1) (fun h => h2 (hu.mpr h))]
  · have h2 : ¬ NoBad a₂ := fun h => h1 (hb.mpr h)
    rw [mkUnion_bad a₁ (by simpa [NoBad] using h1), mkUnion_bad a₂ (by simpa [NoBad] using h2)]

/-- **permutation invariance**: the result (value or refusal) does not depend on the order of
    the arguments; hence `==`, `hash` and `str` of unions do not either -/
theorem union_perm_invariant (a₁ a₂ : List Arg) (hp : a₁.Perm a₂)
    (inj : KeyInj Atom.key (flat a₁)) : mkUnion a₁ = mkUnion a₂ := by
  apply union_ext a₁ a₂ (noBad_perm hp) (uniform_perm hp) _ inj
  intro x
  constructor
  · rintro ⟨a, ha, hx⟩; exact ⟨a, hp.mem_iff.mp ha, hx⟩
  · rintro ⟨a, ha, hx⟩; exact ⟨a, hp.mem_iff.mpr ha, hx⟩

/-- **commutativity** -/
theorem union_comm (a b : Arg) (inj : KeyInj Atom.key (flat [a, b])) :
    mkUnion [a, b] = mkUnion [b, a] :=
  union_perm_invariant _ _ (List.Perm.swap b a []) inj

/-- the printed form is a function of the result, hence also order independent -/
theorem union_str_perm_invariant (a₁ a₂ : List Arg) (hp : a₁.Perm a₂)
    (inj : KeyInj Atom.key (flat a₁)) (r₁ r₂ : Res) (h₁ : mkUnion a₁ = .ok r₁)
    (h₂ : mkUnion a₂ = .ok r₂) : render r₁.members = render r₂.members := by
  rw [union_perm_invariant a₁ a₂ hp inj, h₂] at h₁
  cases h₁; rfl

/-- **duplicates collapse** -/
theorem union_dup_collapse (args : List Arg) (inj : KeyInj Atom.key (flat (args ++ args))) :
    mkUnion (args ++ args) = mkUnion args := by
  apply union_ext _ _ _ _ _ inj
  · unfold NoBad; simp
  · simp [Uniform]
  · intro x; simp

/-! ### idempotence, flattening, associativity -/

/-- a result, passed on as an argument, is a well-formed argument -/
theorem union_result_wf (args : List Arg) (r : Res) (h : mkUnion args = .ok r)
    (hw : ∀ a ∈ args, WFArg a) : WFArg r.toArg := by
  have hd := result_dim args r h hw
  cases r with
  | null => trivial
  | single a => trivial
  | union ms =>
    cases ms with
    | nil => trivial
    | cons m ms' =>
      intro x hx
      obtain ⟨a, ha, hma⟩ := (mem_members_of_ok args _ h m).mp (by simp [Res.members])
      have hna := not_none_of_member a m hma
      rw [hd x (by simp [Res.members, hx]) a ha hna, hd m (by simp [Res.members]) a ha hna]

/-- **nested unions flatten**: replacing a group `g` of consecutive arguments by the union
    built from them changes nothing — neither the value nor a refusal -/
theorem union_nest (pre g post : List Arg) (r : Res) (h : mkUnion g = .ok r)
    (hw : ∀ a ∈ g, WFArg a) (hyg : Hygienic (pre ++ g ++ post)) :
    mkUnion (pre ++ [r.toArg] ++ post) = mkUnion (pre ++ g ++ post) := by
  have hmem : ∀ x, (∃ a ∈ pre ++ [r.toArg] ++ post, x ∈ a.members) ↔
      (∃ a ∈ pre ++ g ++ post, x ∈ a.members) := by
    intro x
    simp [or_and_right, exists_or, mem_toArg_of_ok g r h]
  apply union_ext
  · have hg : ∀ a ∈ g, a.isBad = false := (mkUnion_ok_inv g r h).1
    simpa [NoBad, or_imp, forall_and, toArg_notBad] using fun _ _ => hg
  · apply uniform_congr
    intro d
    rw [dimsOf_append, dimsOf_append, dimsOf_append, dimsOf_append]
    simp only [List.mem_append]
    rw [dims_result g r h hw d]
  · exact hmem
  · exact KeyInj.of_subset hyg (fun x hx => by
      obtain ⟨a, ha, hxa⟩ := (hmem x).mp ((mem_flat _ x).mp hx)
      exact List.mem_flatMap.mpr ⟨a, ha, hxa⟩)

/-- **idempotence**: `Union(U, U) = U` and `Union(U) = U` for every value `U` that `Union`
    returns (None, a single domain, or a Union object) -/
theorem union_idem (args : List Arg) (r : Res) (h : mkUnion args = .ok r)
    (hw : ∀ a ∈ args, WFArg a) (hyg : Hygienic args) :
    mkUnion [r.toArg, r.toArg] = .ok r ∧ mkUnion [r.toArg] = .ok r := by
  have hyg2 : Hygienic (args ++ args) := KeyInj.of_subset hyg (fun x hx => by simpa using hx)
  constructor
  · have e1 := union_nest [] args [r.toArg] r h hw
      (KeyInj.of_subset hyg fun x hx => by simpa [mem_toArg_of_ok args r h] using hx)
    have e2 := union_nest args args [] r h hw (by simpa using hyg2)
    simp only [List.nil_append, List.append_nil] at e1 e2
    have e1' : mkUnion [r.toArg, r.toArg] = mkUnion (args ++ [r.toArg]) := e1
    rw [e1', e2, union_dup_collapse args hyg2.flat, h]
  · have e := union_nest [] args [] r h hw (by simpa using hyg)
    simp only [List.nil_append, List.append_nil] at e
    rw [e, h]

/-- **flattening in general form**: building the unions of any number of groups of arguments
    first (`rf g` is what `Union(*g)` returned) and then the union of the results equals the
    union of all the arguments at once; `pre` are further arguments given directly -/
theorem union_flatten (gs : List (List Arg)) (rf : List Arg → Res)
    (h : ∀ g ∈ gs, mkUnion g = .ok (rf g))
    (hw : ∀ g ∈ gs, ∀ a ∈ g, WFArg a) (pre : List Arg)
    (hyg : Hygienic (pre ++ gs.flatten)) :
    mkUnion (pre ++ gs.map (fun g => (rf g).toArg)) = mkUnion (pre ++ gs.flatten) := by
  induction gs generalizing pre with
  | nil => rfl
  | cons g gs' ih =>
    have hw' : ∀ g ∈ gs', ∀ a ∈ g, WFArg a := fun g hg => hw g (List.mem_cons_of_mem _ hg)
    have h' : ∀ g ∈ gs', mkUnion g = .ok (rf g) := fun g hg => h g (List.mem_cons_of_mem _ hg)
    have hg := h g (by simp)
    have step2 := ih h' hw' (pre ++ g) (by simpa [List.append_assoc] using hyg)
    have hyg1 : Hygienic (pre ++ g ++ gs'.map (fun g => (rf g).toArg)) := by
      apply KeyInj.of_subset hyg
      intro x hx
      simp only [List.flatMap_append, List.mem_append, List.flatten_cons] at hx ⊢
      rcases hx with (hx | hx) | hx
      · exact Or.inl hx
      · exact Or.inr (Or.inl hx)
      · obtain ⟨a, ha, hxa⟩ := List.mem_flatMap.mp hx
        obtain ⟨g', hg', rfl⟩ := List.mem_map.mp ha
        obtain ⟨b, hb, hxb⟩ := (mem_toArg_of_ok g' _ (h' g' hg') x).mp hxa
        exact Or.inr (Or.inr (List.mem_flatMap.mpr ⟨b, List.mem_flatten.mpr ⟨g', hg', hb⟩, hxb⟩))
    have step1 := union_nest pre g (gs'.map (fun g => (rf g).toArg)) (rf g) hg (hw g (by simp)) hyg1
    simp only [List.map_cons, List.flatten_cons]
    have e : pre ++ (rf g).toArg :: gs'.map (fun g => (rf g).toArg) =
        pre ++ [(rf g).toArg] ++ gs'.map (fun g => (rf g).toArg) := by simp
    rw [e, step1, step2, List.append_assoc]

/-- **associativity**: `Union(Union(a, b), c) = Union(a, Union(b, c))` — both are `Union(a, b, c)` -/
theorem union_assoc (a b c : Arg) (rab rbc : Res) (hab : mkUnion [a, b] = .ok rab)
    (hbc : mkUnion [b, c] = .ok rbc) (hw : WFArg a ∧ WFArg b ∧ WFArg c)
    (hyg : Hygienic [a, b, c]) :
    mkUnion [rab.toArg, c] = mkUnion [a, b, c] ∧ mkUnion [a, rbc.toArg] = mkUnion [a, b, c] := by
  constructor
  · simpa using union_nest [] [a, b] [c] rab hab (by simpa using ⟨hw.1, hw.2.1⟩) (by simpa using hyg)
  · simpa using union_nest [a] [b, c] [] rbc hbc (by simpa using hw.2) (by simpa using hyg)

/-! ### refusals -/

/-- **mixed dimensions are refused** (ValueError), wherever the two offending arguments stand -/
theorem mixed_dim_refused (args : List Arg) (hb : NoBad args) (a b : Arg) (ha : a ∈ args)
    (hb' : b ∈ args) (hna : a.isNone = false) (hnb : b.isNone = false) (hd : a.dim ≠ b.dim) :
    mkUnion args = .error .valueError :=
  mkUnion_mixed args hb (fun hu => hd (hu a ha b hb' hna hnb))

/-- an argument that is not a domain is refused (TypeError), before anything else is looked at -/
theorem non_domain_refused (args : List Arg) (h : Arg.bad ∈ args) :
    mkUnion args = .error .typeError :=
  mkUnion_bad args ⟨_, h, rfl⟩

/-- conversely, domains of one dimension (and None's) are never refused -/
theorem union_total (args : List Arg) (hb : NoBad args) (hu : Uniform args) :
    ∃ r, mkUnion args = .ok r := ⟨_, mkUnion_ok args hb hu⟩

/-! ### complement -/

/-- **complement removes exactly the given members**: the result consists of the members of
    `U` that are not among the given ones, in the same order — packed like every union (None when
    nothing is left, the domain itself when one is left).  `U - None = U`; a non-container
    argument is refused. -/
theorem complement_spec (ms : List Atom) (h : IsUnionObj ms) :
    (∀ a, complement ms (.atom a) = .ok (pack (ms.filter (fun i => i ≠ a)))) ∧
    (∀ hd tl, complement ms (.union hd tl) = .ok (pack (ms.filter (fun i => i ∉ hd :: tl)))) ∧
    (∀ l, complement ms (.seq l) = .ok (pack (ms.filter (fun i => i ∉ l)))) ∧
    complement ms .none = .ok (.union ms) ∧
    complement ms .bad = .error .typeError := by
  refine ⟨?_, ?_, ?_, rfl, rfl⟩
  · intro a
    have := complement_list ms [a] h
    simpa [complement] using this
  · intro hd tl; exact complement_list ms (hd :: tl) h
  · intro l; exact complement_list ms l h

/-- in terms of membership: `x ∈ U - V ↔ x ∈ U ∧ x ∉ V`, and nothing is listed twice -/
theorem complement_members (ms : List Atom) (h : IsUnionObj ms) (hd : Atom) (tl : List Atom)
    (r : Res) (hr : complement ms (.union hd tl) = .ok r) :
    (∀ x, x ∈ r.members ↔ x ∈ ms ∧ x ∉ hd :: tl) ∧ r.members.Nodup := by
  rw [(complement_spec ms h).2.1 hd tl] at hr
  cases hr
  rw [members_pack]
  exact ⟨fun x => by simp [List.mem_filter], (h.strict.nodup).sublist List.filter_sublist⟩

/-- what `Union.__new__` returns as a Union object satisfies `IsUnionObj` -/
theorem union_isUnionObj (args : List Arg) (r : Res) (h : mkUnion args = .ok r)
    (hw : ∀ a ∈ args, WFArg a) (hyg : Hygienic args) : IsUnionObj r.members := by
  refine ⟨union_strictly_sorted args r h hyg.flat, ?_⟩
  intro a ha b hb
  obtain ⟨z, hz, haz⟩ := (mem_members_of_ok args r h a).mp ha
  have hn := not_none_of_member z a haz
  rw [result_dim args r h hw a ha z hz hn, result_dim args r h hw b hb z hz hn]

/-! ### iteration -/

/-- **every iterator visits the members in order, each once, whatever else happens in between**:
    for every world `w` (any number of iterators at any positions), every iterator `i` of it
    standing at `pos`, and every further sequence of operations — creations of new iterators and
    `next` calls on any iterators in any interleaving — the answers given to the `next i` calls
    are exactly what an isolated tuple iterator at `pos` would answer. -/
theorem iter_independent (ms : List Atom) (ops : List Op) (w : World) (i pos : Nat)
    (h : w[i]? = some pos) :
    answersTo i ops (run ms w ops) = expected ms pos (countNext i ops) := by
  induction ops generalizing w pos with
  | nil => rfl
  | cons o os ih =>
    cases o with
    | iter =>
      simp only [run, step, answersTo, countNext]
      exact ih (w ++ [0]) pos (getElem?_append_zero w i pos h)
    | next j =>
      by_cases hj : j = i
      · subst hj
        simp only [run, step, h, answersTo, countNext, if_true]
        cases hm : ms[pos]? with
        | none =>
          simp only [Nat.add_comm 1, expected, hm]
          congr 1
          exact ih w pos h
        | some a =>
          simp only [Nat.add_comm 1, expected, hm]
          congr 1
          apply ih
          have hi : j < w.length := by
            apply Decidable.byContradiction; intro hn
            rw [List.getElem?_eq_none (by omega)] at h; cases h
          simp [hi]
      · simp only [run, answersTo, countNext, hj, if_false, Nat.zero_add]
        apply ih
        cases hw : w[j]? with
        | none => simp only [step, hw]; exact h
        | some pj =>
          cases hm : ms[pj]? with
          | none => simp only [step, hw, hm]; exact h
          | some a =>
            simp only [step, hw, hm]
            rw [List.getElem?_set_ne hj]; exact h

/-- the answers of an isolated iterator started at the beginning: the members in order, then
    StopIteration for ever -/
theorem expected_spec (ms : List Atom) (n pos : Nat) :
    expected ms pos n = ((ms.drop pos).take n).map Ev.elem ++
      List.replicate (n - (ms.length - pos)) Ev.stop := by
  induction n generalizing pos with
  | zero => simp [expected]
  | succ n ih =>
    simp only [expected]
    cases hm : ms[pos]? with
    | none =>
      have hl : ms.length ≤ pos := by
        apply Decidable.byContradiction; intro hn
        rw [List.getElem?_eq_getElem (by omega)] at hm; cases hm
      simp only [ih pos]
      rw [List.drop_eq_nil_of_le hl]
      have : ms.length - pos = 0 := by omega
      simp [this, List.replicate_succ]
    | some a =>
      have hl : pos < ms.length := by
        apply Decidable.byContradiction; intro hn
        rw [List.getElem?_eq_none (by omega)] at hm; cases hm
      simp only [ih (pos + 1)]
      have hd : ms.drop pos = a :: ms.drop (pos + 1) := by
        rw [List.getElem?_eq_getElem hl] at hm
        cases hm
        exact List.drop_eq_getElem_cons hl
      rw [hd]
      have : n + 1 - (ms.length - pos) = n - (ms.length - (pos + 1)) := by omega
      simp [this]

/-- **iteration visits every member exactly once each time**: an iterator obtained by `iter(U)`
    at any moment (after any prefix `pre` of other operations), driven to exhaustion by `next`
    calls interleaved in any way with any other operations `post`, yields exactly the members of
    `U` in order — every member once (the list has no duplicates) — and then stops. -/
theorem iter_each_once (ms : List Atom) (pre post : List Op) (w₀ : World) (k : Nat)
    (hk : countNext (exec ms w₀ pre).length post = ms.length + k) :
    answersTo (exec ms w₀ pre).length post
        (run ms (exec ms w₀ (pre ++ [Op.iter])) post) =
      ms.map Ev.elem ++ List.replicate k Ev.stop := by
  rw [exec_append_iter, iter_independent ms post _ (exec ms w₀ pre).length 0 (by simp), hk, expected_spec]
  simp [List.take_of_length_le]

/-- regression counterexample (the machine of the code before the fix): with the index stored on
    the Union object, the nested loop `for a in U: for b in U` over three members ends the outer
    loop after its first element — 3 pairs instead of 9 -/
theorem legacy_shared_index_loses :
    let a : Atom := ⟨"a", some 2⟩; let b : Atom := ⟨"b", some 2⟩; let c : Atom := ⟨"c", some 2⟩
    Legacy.run [a, b, c] 0
        [.iter, .next 0,                        -- outer loop: first element
         .iter, .next 1, .next 1, .next 1, .next 1,   -- inner loop runs to StopIteration
         .next 0]                               -- outer loop asks for its second element
      = [.made 0, .elem a, .made 0, .elem a, .elem b, .elem c, .stop, .stop] := by
  decide

/-! ### non-vacuity -/

example : mkUnion [.atom ⟨"B", some 2⟩, .none, .union ⟨"A", some 2⟩ [⟨"C", some 2⟩], .atom ⟨"A", some 2⟩]
    = .ok (.union [⟨"A", some 2⟩, ⟨"B", some 2⟩, ⟨"C", some 2⟩]) := by decide +kernel
example : mkUnion [.none, .none] = .ok .null := by decide +kernel
example : mkUnion [.atom ⟨"A", some 2⟩, .atom ⟨"A", some 2⟩] = .ok (.single ⟨"A", some 2⟩) := by decide +kernel
example : mkUnion [.atom ⟨"A", some 2⟩, .atom ⟨"B", some 3⟩] = .error .valueError := by decide +kernel
example : mkUnion [.atom ⟨"A", some 2⟩, .bad, .atom ⟨"B", some 3⟩] = .error .typeError := by decide +kernel
example : Hygienic [.atom ⟨"B", some 2⟩, .union ⟨"A", some 2⟩ [⟨"C", some 2⟩]] := by
  unfold Hygienic KeyInj; decide +kernel
example : IsUnionObj [⟨"A", some 2⟩, ⟨"B", some 2⟩, ⟨"C", some 2⟩] :=
  ⟨by unfold StrictSorted; decide +kernel, by decide +kernel⟩
example : complement [⟨"A", some 2⟩, ⟨"B", some 2⟩, ⟨"C", some 2⟩] (.union ⟨"C", some 2⟩ [⟨"A", some 2⟩])
    = .ok (.single ⟨"B", some 2⟩) := by decide +kernel
example : run [⟨"A", some 2⟩, ⟨"B", some 2⟩] [] [.iter, .next 0, .iter, .next 1, .next 1, .next 1, .next 0, .next 0]
    = [.made 0, .elem ⟨"A", some 2⟩, .made 1, .elem ⟨"A", some 2⟩, .elem ⟨"B", some 2⟩, .stop,
       .elem ⟨"B", some 2⟩, .stop] := by decide +kernel

end Sympde.USet

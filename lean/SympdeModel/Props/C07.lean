/-
  C07 — interface integrals split conservatively into same-side and mixed-side kernels.

  After `jump(w)` has been replaced by `minus(w) - plus(w)` and the integrand expanded, every
  monomial of a bilinear interface integrand contains its trial function restricted to one side
  and its test function restricted to one side.  `_split_expr_over_interface` extracts the four
  pieces by setting the restrictions to the other side to zero — the block extraction of C06 with
  the two sides {0 = minus, 1 = plus} as index set.  The same-side pieces (0,0), (1,1) become the
  boundary kernels of the two faces (on the plus face the normal is reversed, an involution),
  the mixed pieces (0,1), (1,0) the interface kernels tagged (trial side, test side).
-/
import SympdeModel.Props.C06
namespace Sympde.Forms

/-- the piece with trial side `s` and test side `t` -/
def piece (P : List Mono) (s t : Nat) : List Mono := extract P t s

/-- every monomial is restricted: trial and test each sit on side 0 or 1 -/
def Restricted (P : List Mono) : Prop := Bilinear P 2 2

/-- **the four pieces together are the integrand** (no monomial lost, duplicated or invented) -/
theorem split_conservative (P : List Mono) (h : Restricted P) (m : Mono) :
    (piece P 0 0 ++ piece P 1 0 ++ piece P 0 1 ++ piece P 1 1).count m = P.count m := by
  have e : allEntries P 2 2
      = extract P 0 0 ++ extract P 0 1 ++ extract P 1 0 ++ extract P 1 1 := by
    simp [allEntries, List.range_succ, List.flatMap_cons, List.flatMap_nil, List.append_assoc]
  have := blocks_recombine P 2 2 h m
  rw [e] at this
  simp only [piece, List.count_append] at this ⊢
  omega

/-- **purity**: piece (s,t) contains only monomials whose trial sits on side s and whose test
    sits on side t -/
theorem pieces_pure (P : List Mono) (h : Restricted P) (s t : Nat) (m : Mono) (hm : m ∈ piece P s t) :
    m.trial = some s ∧ m.test = some t := by
  unfold piece at hm
  rw [extract_eq_block P 2 2 t s h] at hm
  simp only [block, List.mem_filter, Bool.and_eq_true, beq_iff_eq] at hm
  exact ⟨hm.2.2, hm.2.1⟩

/-- a monomial belongs to exactly the piece named by its own sides -/
theorem piece_of_mono (P : List Mono) (h : Restricted P) (m : Mono) (hm : m ∈ P) :
    ∃ s, s < 2 ∧ ∃ t, t < 2 ∧ m ∈ piece P s t ∧
      ∀ s' t', m ∈ piece P s' t' → s' = s ∧ t' = t := by
  obtain ⟨t, ht, s, hs, hmem⟩ := blocks_cover P 2 2 h m hm
  refine ⟨s, hs, t, ht, hmem, ?_⟩
  intro s' t' h'
  have := blocks_disjoint P 2 2 t s t' s' h m hmem h'
  exact ⟨this.2.symm, this.1.symm⟩

/-- **linear forms** split into the two side pieces -/
theorem split_linear (P : List Mono) (h : LinearIn P 2) (m : Mono) :
    (extractLin P 0 ++ extractLin P 1).count m = P.count m := by
  have := linear_recombine P 2 h m
  have e : (List.range 2).flatMap (fun i => extractLin P i) = extractLin P 0 ++ extractLin P 1 := by
    simp [List.range_succ, List.flatMap_cons, List.flatMap_nil]
  rw [e] at this
  exact this

/-- reversing the normal on the plus side is an involution on the sign of a monomial with `k`
    normal factors: mapping the plus-side boundary kernel back gives the original piece -/
theorem normal_reversal_involutive (k : Nat) (x : Int) : (-1 : Int) ^ k * ((-1 : Int) ^ k * x) = x := by
  rw [← Int.mul_assoc, ← Int.mul_pow, show ((-1 : Int) * -1) = 1 from rfl, Int.one_pow, Int.one_mul]

/-! non-vacuity: κ [u][v] = κ (u⁻v⁻ − u⁻v⁺ − u⁺v⁻ + u⁺v⁺) -/
example : Restricted [⟨0, some 0, some 0⟩, ⟨1, some 1, some 0⟩, ⟨2, some 0, some 1⟩, ⟨3, some 1, some 1⟩] := by
  intro m hm; simp at hm; rcases hm with rfl | rfl | rfl | rfl <;> simp
example : piece [⟨0, some 0, some 0⟩, ⟨1, some 1, some 0⟩, ⟨2, some 0, some 1⟩, ⟨3, some 1, some 1⟩] 0 1
    = [⟨1, some 1, some 0⟩] := by decide

end Sympde.Forms

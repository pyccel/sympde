/-
  C06 — form lowering is a lossless decomposition by region and test/trial block.
  C07's partition statement (sides of an interface as the index set) is the same theorem and is
  re-exported in Props/C07.lean.
-/
import SympdeModel.Model.Forms
namespace Sympde.Forms

theorem keepTest_some (i t : Nat) (m : Mono) (h : m.test = some t) : keepTest i m = (t == i) := by
  simp [keepTest, h]

theorem keepTrial_some (j u : Nat) (m : Mono) (h : m.trial = some u) : keepTrial j m = (u == j) := by
  simp [keepTrial, h]

/-- **entry (i,j) is exactly the part coupling test i with trial j** -/
theorem extract_eq_block (P : List Mono) (nt nu i j : Nat) (h : Bilinear P nt nu) :
    extract P i j = block P i j := by
  unfold extract block
  rw [List.filter_filter]
  apply List.filter_congr
  intro m hm
  obtain ⟨⟨t, ht, _⟩, ⟨u, hu, _⟩⟩ := h m hm
  simp [keepTest, keepTrial, ht, hu, Bool.and_comm]

/-- **purity / disjointness**: a monomial sits in at most one entry -/
theorem blocks_disjoint (P : List Mono) (nt nu i j i' j' : Nat) (h : Bilinear P nt nu) (m : Mono)
    (h1 : m ∈ extract P i j) (h2 : m ∈ extract P i' j') : i = i' ∧ j = j' := by
  rw [extract_eq_block P nt nu i j h] at h1
  rw [extract_eq_block P nt nu i' j' h] at h2
  simp only [block, List.mem_filter, Bool.and_eq_true, beq_iff_eq] at h1 h2
  constructor
  · have := h1.2.1.symm.trans h2.2.1; simpa using this
  · have := h1.2.2.symm.trans h2.2.2; simpa using this

/-- **coverage**: every monomial of a bilinear integrand sits in some entry of the kernel -/
theorem blocks_cover (P : List Mono) (nt nu : Nat) (h : Bilinear P nt nu) (m : Mono) (hm : m ∈ P) :
    ∃ i, i < nt ∧ ∃ j, j < nu ∧ m ∈ extract P i j := by
  obtain ⟨⟨t, ht, htl⟩, ⟨u, hu, hul⟩⟩ := h m hm
  refine ⟨t, htl, u, hul, ?_⟩
  simp [extract, List.mem_filter, hm, keepTest, keepTrial, ht, hu]

theorem count_filter_eq (p : Mono → Bool) (m : Mono) (l : List Mono) :
    (l.filter p).count m = if p m then l.count m else 0 := by
  by_cases h : p m = true
  · rw [if_pos h, List.count_filter h]
  · rw [if_neg h, List.count_eq_zero]
    exact fun hm => h (List.mem_filter.mp hm).2

theorem sum_range_indicator (n t c : Nat) (h : t < n) :
    ((List.range n).map (fun i => if t == i then c else 0)).sum = c := by
  induction n with
  | zero => omega
  | succ n ih =>
    rw [List.range_succ, List.map_append, List.sum_append, List.map_singleton, List.sum_singleton]
    by_cases htn : t = n
    · -- the summands before the last are all zero
      subst htn
      have : ((List.range t).map (fun i => if t == i then c else 0)).sum = 0 := by
        rw [List.sum_eq_zero_iff_forall_eq_nat]
        intro x hx
        obtain ⟨i, hi, rfl⟩ := List.mem_map.mp hx
        rw [if_neg (by simpa using Nat.ne_of_gt (List.mem_range.mp hi))]
      rw [this, beq_self_eq_true, if_pos rfl, Nat.zero_add]
    · rw [ih (by omega), if_neg (by simpa using htn), Nat.add_zero]

/-- **partition by an index**: if, of the pieces `f 0, …, f (n-1)`, only piece `t` contains `m`
    (`c` times), so does their concatenation -/
theorem count_flatMap_range (n : Nat) (f : Nat → List Mono) (m : Mono) (t c : Nat) (ht : t < n)
    (hf : ∀ i, (f i).count m = if t == i then c else 0) :
    ((List.range n).flatMap f).count m = c := by
  rw [List.count_flatMap, List.map_congr_left (f := List.count m ∘ f) (g := fun i => if t == i then c else 0)
    (fun i _ => hf i)]
  exact sum_range_indicator n t c ht

/-- **recombination**: taken together, the entries contain every monomial of a bilinear
    integrand exactly as often as the integrand does — nothing lost, nothing duplicated,
    nothing invented. -/
theorem blocks_recombine (P : List Mono) (nt nu : Nat) (h : Bilinear P nt nu) (m : Mono) :
    (allEntries P nt nu).count m = P.count m := by
  unfold allEntries
  by_cases hm : m ∈ P
  · obtain ⟨⟨t, ht, htl⟩, ⟨u, hu, hul⟩⟩ := h m hm
    apply count_flatMap_range nt _ m t _ htl
    intro i
    apply count_flatMap_range nu _ m u _ hul
    intro j
    rw [extract, count_filter_eq, count_filter_eq, keepTest_some i t m ht, keepTrial_some j u m hu]
  · rw [List.count_eq_zero.mpr hm, List.count_eq_zero]
    intro hmem
    obtain ⟨i, _, hi⟩ := List.mem_flatMap.mp hmem
    obtain ⟨j, _, hj⟩ := List.mem_flatMap.mp hi
    exact hm (List.mem_filter.mp (List.mem_filter.mp hj).1).1

/-- linear forms: entry i is the part containing test component i -/
theorem extractLin_eq_block (P : List Mono) (nt i : Nat) (h : LinearIn P nt) :
    extractLin P i = blockLin P i := by
  unfold extractLin blockLin
  apply List.filter_congr
  intro m hm
  obtain ⟨t, ht, _⟩ := h m hm
  simp [keepTest, ht]

theorem linear_recombine (P : List Mono) (nt : Nat) (h : LinearIn P nt) (m : Mono) :
    ((List.range nt).flatMap (fun i => extractLin P i)).count m = P.count m := by
  by_cases hm : m ∈ P
  · obtain ⟨t, ht, htl⟩ := h m hm
    apply count_flatMap_range nt _ m t _ htl
    intro i
    rw [extractLin, count_filter_eq, keepTest_some i t m ht]
  · rw [List.count_eq_zero.mpr hm, List.count_eq_zero]
    intro hmem
    obtain ⟨i, _, hi⟩ := List.mem_flatMap.mp hmem
    exact hm (List.mem_filter.mp hi).1

/-- a vanishing integrand gives empty (zero) entries, never an error -/
theorem zero_form (i j : Nat) : extract [] i j = [] ∧ extractLin [] i = [] := by
  simp [extract, extractLin]

/-- without bilinearity the extraction is NOT a partition: a monomial free of test functions is
    copied into every row (this is why the linearity verdict, C08, matters) -/
theorem nonlinear_term_duplicated :
    (allEntries [⟨0, none, some 0⟩] 2 1).count ⟨0, none, some 0⟩ = 2 := by decide

/-! ### regions -/

/-- **attribution**: the integrands accumulated for region d are exactly those of the integrals
    whose domain contains d — in order, with multiplicity -/
theorem group_spec (ts : List Term) (d b : Nat) :
    (group ts d).count b = (ts.filter (fun t => t.regions.contains d && t.body == b)).length := by
  rw [group, List.count, List.countP_map, List.countP_filter, ← List.countP_eq_length_filter]
  congr
  funext t
  exact Bool.and_comm _ _

theorem mem_dedup (l : List Nat) (d : Nat) : d ∈ dedup l ↔ d ∈ l := by
  induction l with
  | nil => exact Iff.rfl
  | cons a l ih =>
    rw [dedup, List.mem_cons]
    split
    · rename_i hc
      have ha : a ∈ dedup l := List.contains_iff_mem.mp hc
      exact ⟨fun h => Or.inr (ih.mp h), fun h => h.elim (fun e => e ▸ ha) ih.mpr⟩
    · rw [List.mem_cons, ih]

theorem nodup_dedup (l : List Nat) : (dedup l).Nodup := by
  induction l with
  | nil => simp [dedup]
  | cons a l ih =>
    simp only [dedup]
    split
    · exact ih
    · rename_i hc
      exact List.nodup_cons.mpr ⟨by simpa using hc, ih⟩

theorem mem_regionsOf (ts : List Term) (d : Nat) :
    d ∈ regionsOf ts ↔ ∃ t ∈ ts, d ∈ t.regions := by
  simp [regionsOf, mem_dedup, List.mem_flatMap]

/-- **one kernel per region that occurs**: no region is invented, lost or listed twice -/
theorem kernels_regions (ts : List Term) :
    ((kernels ts).map (·.1)).Nodup ∧
    ∀ d, d ∈ (kernels ts).map (·.1) ↔ ∃ t ∈ ts, d ∈ t.regions := by
  have hmap : (kernels ts).map (·.1) = regionsOf ts := by
    unfold kernels
    rw [List.map_map]
    have : ((fun (x : Nat × List Nat) => x.1) ∘ fun d => (d, group ts d)) = id := by
      funext d; rfl
    rw [this, List.map_id]
  rw [hmap]
  exact ⟨nodup_dedup _, fun d => mem_regionsOf ts d⟩

/-! non-vacuity -/
example : Bilinear [⟨0, some 0, some 1⟩, ⟨1, some 1, some 0⟩, ⟨2, some 0, some 1⟩] 2 2 := by
  intro m hm; simp at hm; rcases hm with rfl | rfl | rfl <;> simp
example : extract [⟨0, some 0, some 1⟩, ⟨1, some 1, some 0⟩, ⟨2, some 0, some 1⟩] 0 1
    = [⟨0, some 0, some 1⟩, ⟨2, some 0, some 1⟩] := by decide
example : kernels [⟨[0, 1], 7⟩, ⟨[1], 8⟩] = [(0, [7]), (1, [7, 8])] := by decide

end Sympde.Forms

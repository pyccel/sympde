/-
  C02 (interface operators) — soundness of the constructors Jump / Average / Minus / Plus /
  NormalDerivative (`Calc.ifaceEval`, sympde/calculus/core.py `*.eval`) with respect to the
  two-sided meaning `denI` (Sem/DenI.lean, mirrors the oracle `InstPair`): every expression has a
  value on each side of the interface, functions are interpreted independently on the two sides,
      minus(w) = w⁻,  plus(w) = w⁺,  jump(w) = w⁻ − w⁺,  avg(w) = (w⁻ + w⁺)/2,
      Dn(w) = Σ_k n_k ∂_k w  with the normal of the side
  (`denI_minus`, `denI_plus`, `denI_jump`, `denI_avg`, `denI_dn`, `denI_normal`, `denI_sf`,
  `denI_add`, `denI_mul` in Lemmas/Calc3.lean are the recursive equations).
  Each theorem is for ALL argument trees (structural induction), all dimensions, both sides,
  every component.
-/
import SympdeModel.Lemmas.Calc3
namespace Sympde
open E Calc

variable {K : Type} [CommRing K] [Algebra ℚ K]

/-- **all five interface operators at once**: whatever `k(e)` returns — sum rule, coefficients
    pulled out, `[fg] = {f}[g] + [f]{g}`, `{fg} = {f}{g} + [f][g]/4`, restrictions of products =
    products of restrictions, Leibniz rule of `Dn`, zero jump / normal derivative of a product of
    constants, `minus(n) = n⁻`, `minus(Dn u) = grad(minus u) . n⁻`, entry-wise restriction of
    matrices, the unevaluated node otherwise (also after a refusal inside a product) — has the
    meaning of the literal `k(e)` on both sides of the interface.
    Side condition (Minus / Plus only, `strict k = false`): `DnOK e`. -/
theorem ifaceEval_sound (S : DRing K) (d : Nat) (lg : Bool) (k : IK) (e : E)
    (hk : strict k = true ∨ DnOK e = true) (r : E) (h : ifaceEval d k e = .ok r) :
    ∀ s i j, denI S d lg s r i j = denI S d lg s (op1 k.op e) i j := by
  intro s i j
  rw [denI_op]
  exact ifaceEval_opI S d lg e k hk r h s i j

/-- **Jump** (no side condition) -/
theorem jumpEval_sound (S : DRing K) (d : Nat) (lg : Bool) (e r : E)
    (h : ifaceEval d .jump e = .ok r) :
    ∀ s i j, denI S d lg s r i j = denI S d lg s (op1 .jump e) i j :=
  ifaceEval_sound S d lg .jump e (Or.inl rfl) r h

/-- **Average** (no side condition) -/
theorem avgEval_sound (S : DRing K) (d : Nat) (lg : Bool) (e r : E)
    (h : ifaceEval d .avg e = .ok r) :
    ∀ s i j, denI S d lg s r i j = denI S d lg s (op1 .avg e) i j :=
  ifaceEval_sound S d lg .avg e (Or.inl rfl) r h

/-- **NormalDerivative** (no side condition): linear, constants out, Leibniz rule -/
theorem dnEval_sound (S : DRing K) (d : Nat) (lg : Bool) (e r : E)
    (h : ifaceEval d .dn e = .ok r) :
    ∀ s i j, denI S d lg s r i j = denI S d lg s (op1 .dn e) i j :=
  ifaceEval_sound S d lg .dn e (Or.inl rfl) r h

/-- **Minus**: `DnOK e` — every `Dn` met along the recursion (terms of sums, factors of
    products, entries of matrices) is applied to a scalar leaf (scalar function, symbol,
    constant); there `minus(Dn u) = Dot(Grad(minus u), n⁻)` -/
theorem minusEval_sound (S : DRing K) (d : Nat) (lg : Bool) (e : E) (hok : DnOK e = true) (r : E)
    (h : ifaceEval d .minus e = .ok r) :
    ∀ s i j, denI S d lg s r i j = denI S d lg s (op1 .minus e) i j :=
  ifaceEval_sound S d lg .minus e (Or.inr hok) r h

/-- **Plus**: as Minus -/
theorem plusEval_sound (S : DRing K) (d : Nat) (lg : Bool) (e : E) (hok : DnOK e = true) (r : E)
    (h : ifaceEval d .plus e = .ok r) :
    ∀ s i j, denI S d lg s r i j = denI S d lg s (op1 .plus e) i j :=
  ifaceEval_sound S d lg .plus e (Or.inr hok) r h

/-- the semantics separates the two sides: the jump of a function is the difference of two
    independent values, its average their half sum -/
example (S : DRing K) (d : Nat) (lg : Bool) (s : Side) (i j : Nat) :
    denI S d lg s (op1 .jump (sf "f" .h1)) i j = S.sf "M:f" - S.sf "P:f"
    ∧ denI S d lg s (op1 .avg (sf "f" .h1)) i j = halfK K * (S.sf "M:f" + S.sf "P:f") := by
  refine ⟨?_, ?_⟩
  · rw [denI_jump, denI_sf, denI_sf]; rfl
  · rw [denI_avg, denI_sf, denI_sf]; rfl

/-- non-vacuity: the rules fire on `jump(2*f*g + h)`, `avg(c*f*g*h)`, `Dn(3*f*g)`,
    `jump(2*c)` (zero), and `minus(c*f*Dn(g) + Dn(h) + n)` satisfies `DnOK` -/
example :
    (∃ r, ifaceEval 2 .jump (add [mul [num 2 1, sf "f" .h1, sf "g" .h1], sf "h" .h1]) = .ok r)
    ∧ (∃ r, ifaceEval 2 .avg (mul [cst "c", sf "f" .h1, sf "g" .h1, sf "h" .h1]) = .ok r)
    ∧ (∃ r, ifaceEval 2 .dn (mul [num 3 1, sf "f" .h1, sf "g" .h1]) = .ok r)
    ∧ ifaceEval 2 .jump (mul [num 2 1, cst "c"]) = .ok (mul [mul [num 2 1, cst "c"], E.zero])
    ∧ DnOK (add [mul [cst "c", sf "f" .h1, op1 .dn (sf "g" .h1)], op1 .dn (sf "h" .h1),
        normal "NormalVector:n"]) = true
    ∧ (∃ r, ifaceEval 2 .minus (add [mul [cst "c", sf "f" .h1, op1 .dn (sf "g" .h1)],
        op1 .dn (sf "h" .h1), normal "NormalVector:n"]) = .ok r) :=
  ⟨⟨_, rfl⟩, ⟨_, rfl⟩, ⟨_, rfl⟩, rfl, by decide, ⟨_, rfl⟩⟩

end Sympde

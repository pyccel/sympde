/-
  C15 — exporting a domain and reading it back yields the same topology.
  Property theorems only (helper lemmas are in Lemmas/Export.lean and Lemmas/Union.lean).

  `toDict` / `fromDict` model `Domain.todict` and `Domain.from_file` (after the YAML inside the
  HDF5 file has been loaded; the file layer is the identity on dictionaries — trusted, exercised
  by the correspondence run with real files).  `Exportable d` (Model/Export.lean, `exportableB`)
  singles out the valid single patches and the well-formed multi-patch domains.
-/
import SympdeModel.Lemmas.Export
namespace Sympde.Export
open USet

/-- what `Domain.todict` writes for a well-formed multi-patch domain -/
theorem toDict_multi (d : Dom) (h : MultiOK d) :
    toDict d = .ok ⟨d.name, d.dim, .many (d.interiors.map (·.dtype)), .many (d.interiors.map Patch.todict),
      .many (d.boundary.map Face.todict), (d.normalize.conn).map entryD⟩ := by
  obtain ⟨p1, p2, rest, hi⟩ := exists_cons_cons h.two
  unfold toDict
  rw [hi]
  match hbd : d.boundary, h.notOne with
  | [], _ => rfl
  | b1 :: b2 :: bs, _ => rfl

/-- what `Domain.todict` writes for a single patch -/
theorem toDict_single (p : Patch) (h : ValidPatch p) :
    toDict (patchDom p) = .ok ⟨p.name, p.dim, .one p.dtype, .one p.todict,
      .many ((canon Face.str (facesOf p)).map Face.todict), []⟩ := by
  have hdim : 1 ≤ p.dim := validPatch_dim_pos p h
  have m1 : (⟨p, 0, -1⟩ : Face) ∈ canon Face.str (facesOf p) := by
    rw [mem_canon, mem_facesOf]; exact ⟨rfl, hdim, Or.inl rfl⟩
  have m2 : (⟨p, 0, 1⟩ : Face) ∈ canon Face.str (facesOf p) := by
    rw [mem_canon, mem_facesOf]; exact ⟨rfl, hdim, Or.inr rfl⟩
  unfold toDict patchDom
  simp only []
  match hc : canon Face.str (facesOf p) with
  | [] => rw [hc] at m1; cases m1
  | [b] =>
    rw [hc] at m1 m2
    simp at m1 m2
    rw [← m1] at m2
    simp at m2
  | b1 :: b2 :: bs => rfl

/-- **round trip**: for every exportable domain, writing it and reading it back succeeds and
    yields the same domain — same name, dimension, patches (type, bounds, mapping name), external
    boundary faces and interfaces (minus face, plus face, orientation) — up to the insertion order
    of the connectivity dictionary, which the file sorts by interface name. -/
theorem roundtrip (d : Dom) (h : Exportable d) : (toDict d >>= fromDict) = .ok d.normalize := by
  rcases exportable_cases d h with ⟨p, hv, rfl⟩ | hm
  · -- a single patch
    rw [toDict_single p hv]
    have hvs : ∀ q ∈ [p], ValidPatch q := fun q hq => List.mem_singleton.mp hq ▸ hv
    have hss : StrictSorted Patch.name [p] := List.pairwise_singleton _ _
    have hc := constructAll_valid [p] hvs
    have hb := readBoundary_ok [p] hvs hss (canon Face.str (facesOf p)) (by
      intro b hb
      rw [mem_canon, mem_facesOf] at hb
      exact ⟨by simp [hb.1], by rw [hb.1]; exact hb.2.1, hb.2.2⟩)
    have hr := remap_eq p hv
    simp only [List.map_cons, List.map_nil] at hc hb
    simp only [bind, Except.bind, fromDict, List.zip_cons_cons, List.zip_nil_right, hc,
      List.map_cons, List.map_nil, hr]
    have hk : [(p.todict.name, p.todict.mapping)] = [keyOf p] := rfl
    rw [hk, hb]
    simp only [readConn]
    simp [Dom.normalize, patchDom, sortBy]
  · -- a multi-patch domain
    rw [toDict_multi d hm]
    obtain ⟨p1, p2, rest, hps⟩ := exists_cons_cons hm.two
    have hv := hm.valid
    have hs := hm.sorted
    -- patches are re-constructed and re-mapped
    have hc : constructAll ((d.interiors.map Patch.todict).zip (d.interiors.map (·.dtype))) =
        .ok (d.interiors.map Patch.strip) := by
      rw [zip_map_map]; exact constructAll_valid d.interiors hv
    have hdoms : ((d.interiors.map Patch.strip).zip (d.interiors.map Patch.todict)).map
        (fun (x : Patch × IntD) => patchDom (if x.2.mapping != "None" then { x.1 with mapping := some x.2.mapping } else x.1))
        = d.interiors.map patchDom := by
      rw [zip_map_map, List.map_map]
      apply List.map_congr_left
      intro p hp
      simp only [Function.comp]
      rw [remap_eq p (hv p hp)]
    have hkeys : (d.interiors.map Patch.todict).map (fun i => (i.name, i.mapping)) = d.interiors.map keyOf := by
      rw [List.map_map]; rfl
    -- the boundary faces are found again
    have hbnd : ∀ b ∈ d.boundary, b.patch ∈ d.interiors ∧ b.axis < b.patch.dim ∧ (b.ext = -1 ∨ b.ext = 1) := by
      intro b hb
      rw [hm.boundary, mem_canon, List.mem_filter] at hb
      obtain ⟨p, hp, hbp⟩ := List.mem_flatMap.mp hb.1
      rw [mem_canon, mem_facesOf] at hbp
      exact ⟨by rw [hbp.1]; exact hp, by rw [hbp.1]; exact hbp.2.1, hbp.2.2⟩
    have hrb := readBoundary_ok d.interiors hv hs d.boundary hbnd
    -- the connections are read
    have hsL : ∀ e ∈ d.normalize.conn, IfaceOK d e := fun e he =>
      hm.ifaces e ((mem_sortBy _ e d.conn).mp he)
    have hrc := readConn_ok d.interiors hv hs (d.normalize.conn)
      (fun e he => ⟨(hsL e he).minus.mem, (hsL e he).plus.mem⟩)
    -- join re-creates the interfaces
    have hk : ((([] : List (String × Iface)) ++ d.normalize.conn).map (·.1)).Nodup := by
      rw [List.nil_append]
      exact ((sortBy_perm _ d.conn).map _).nodup_iff.mpr hm.keys
    have hloop := joinLoop_ok d (d.normalize.conn) [] [] hsL hk
    simp only [List.nil_append] at hloop
    have hj := join_core d.interiors hm.two d.name d.dim _ d.normalize.conn d.boundary hm.dims hs hloop
      (by rw [← filter_conn_normalize]; exact hm.boundary)
    simp only [bind, Except.bind, fromDict, hc, hdoms, hkeys, hrb, hrc]
    -- at least two patches: `from_file` calls `join`
    refine Eq.trans ?_ hj
    rw [hps]
    rfl

/-- **idempotence of the file content**: the re-read domain writes the same dictionary
    (for every `Dom`, exportable or not: sorting the connectivity twice is sorting it once) -/
theorem todict_normalize (d : Dom) : toDict d.normalize = toDict d := by
  have hs : sortBy (fun (e : String × Iface) => e.1) (sortBy (fun (e : String × Iface) => e.1) d.conn) = sortBy (fun (e : String × Iface) => e.1) d.conn :=
    sortBy_of_sorted _ _ (sortBy_sorted _ _)
  unfold toDict Dom.normalize connTodict
  simp only [hs]

/-- **writing the re-read domain again produces the same file content** -/
theorem todict_idempotent (d : Dom) (h : Exportable d) :
    (toDict d >>= fromDict >>= toDict) = toDict d := by
  rw [roundtrip d h]
  exact todict_normalize d

/-- **the re-read domain, field by field** -/
theorem roundtrip_fields (d d' : Dom) (h : Exportable d) (hr : (toDict d >>= fromDict) = .ok d') :
    d'.name = d.name ∧ d'.dim = d.dim ∧ d'.interiors = d.interiors ∧ d'.boundary = d.boundary ∧
      d'.conn.Perm d.conn ∧ (∀ k i, (k, i) ∈ d'.conn ↔ (k, i) ∈ d.conn) := by
  rw [roundtrip d h] at hr
  cases hr
  refine ⟨rfl, rfl, rfl, rfl, sortBy_perm _ _, fun k i => mem_sortBy _ _ _⟩

/-- in particular every interface is read back with its minus face, plus face and orientation,
    and no interface is invented -/
theorem roundtrip_interfaces (d d' : Dom) (h : Exportable d)
    (hr : (toDict d >>= fromDict) = .ok d') (i : Iface) :
    (∃ k, (k, i) ∈ d'.conn) ↔ (∃ k, (k, i) ∈ d.conn) := by
  have := (roundtrip_fields d d' h hr).2.2.2.2.2
  constructor
  · rintro ⟨k, hk⟩; exact ⟨k, (this k i).mp hk⟩
  · rintro ⟨k, hk⟩; exact ⟨k, (this k i).mpr hk⟩

/-- **the re-read domain is again exportable** (so export / re-import can be iterated) -/
theorem exportable_normalize (d : Dom) (h : Exportable d) : Exportable d.normalize := by
  rcases exportable_cases d h with ⟨p, hv, rfl⟩ | hm
  · have : (patchDom p).normalize = patchDom p := by simp [Dom.normalize, patchDom, sortBy]
    rw [this]; exact exportable_of_single p hv
  · apply exportable_of_multi
    have hmem : ∀ e, e ∈ d.normalize.conn ↔ e ∈ d.conn := fun e => mem_sortBy _ e _
    refine ⟨hm.valid, hm.two, hm.sorted, hm.dims, ?_, ?_, ?_, hm.notOne⟩
    · exact ((sortBy_perm _ d.conn).map _).nodup_iff.mpr hm.keys
    · intro e he
      have := hm.ifaces e ((hmem e).mp he)
      exact ⟨this.key, this.name, ⟨this.minus.mem, this.minus.axis, this.minus.ext⟩,
        ⟨this.plus.mem, this.plus.axis, this.plus.ext⟩, this.axis, this.ornt⟩
    · show d.boundary = _
      rw [← filter_conn_normalize]; exact hm.boundary

/-! ### non-vacuity: concrete exportable domains, and what the theorems say about them -/

open Sample in
example : construct "A" sqA.dtype = .ok sqA := by decide +kernel
open Sample in
example : join [patchDom sqA, patchDom sqB] [⟨0, 0, 1, 1, 0, -1, some (.int (-1))⟩] "Omega" = .ok dom2 := by decide +kernel

open Sample in
example : Exportable dom2 := dom2_exportable
open Sample in
example : Exportable (patchDom sqB) := by unfold Exportable; decide +kernel
open Sample in
example : Exportable ring := ring_exportable
open Sample in
example : (toDict dom2 >>= fromDict) = .ok dom2 := (roundtrip dom2 dom2_exportable).trans (by decide +kernel)
-- the orientation -1 is part of what is compared:
open Sample in
example : (toDict dom2 >>= fromDict) ≠ .ok { dom2 with conn := [("A|F(B)", ⟨"A|F(B)", ⟨sqA, 0, 1⟩, ⟨sqB, 0, -1⟩, .int 1⟩)] } := by
  rw [roundtrip dom2 dom2_exportable]; decide +kernel
-- the ring comes back with its connectivity sorted by name, and nothing else changed:
open Sample in
example : (toDict ring >>= fromDict) = .ok { ring with conn := ring.conn.reverse } :=
  (roundtrip ring ring_exportable).trans (by decide +kernel)
-- a non-exportable value: the external boundary lists a face that is part of the interface
open Sample in
example : ¬ Exportable { dom2 with boundary := ⟨sqA, 0, 1⟩ :: dom2.boundary } := by unfold Exportable; decide +kernel

end Sympde.Export

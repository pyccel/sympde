/-
  C19 — exterior-calculus operators obey their algebraic laws and degree arithmetic.
  Apart from `d ∘ d` and `δ ∘ δ` (which rest on `eval_isImg`: the image of `d` / `δ` is annihilated),
  the laws are instances of two statements about canonical linear combinations (`isLin b`) of base
  terms `b`: an operator that annihilates the base terms annihilates the combinations
  (`eval_lin_zero`), and one that maps base terms into combinations of another kind does so for
  all combinations (`eval_lin_map`).
-/
import SympdeModel.Lemmas.Exterior
namespace Sympde.Ext
open XE

/-- on anything but a sum or a product an operator tries its short-cuts and else wraps -/
theorem uEval_atom (o : U) (e : XE) (hna : ∀ as, e ≠ add as) (hnm : ∀ as, e ≠ mul as) :
    uEval o e = (shortcut o e).getD (o.node e) := by
  cases e with
  | add as => exact absurd rfl (hna as)
  | mul as => exact absurd rfl (hnm as)
  | _ => simp only [uEval]; cases shortcut o _ <;> rfl

theorem uEval_add (o : U) (as : List XE) : uEval o (add as) = sAdd (as.map (uEval o)) := by
  rw [uEval, uEvalList_eq]

/-- **homogeneity (literal)**: on a product with at least one coefficient and exactly one other
    factor `v`, the operator goes to `v` and the coefficients (numbers, Constants, powers) stay
    in front, whatever their number and order -/
theorem eval_smul (o : U) (as : List XE) (v : XE) (hc : (coefs as).isEmpty = false)
    (hv : vecs as = [v]) : uEval o (mul as) = sMul (coefs as ++ [uEval o v]) := by
  rw [uEval, mulBranch, rvs_eq, hv]
  simp [hc]

/-- the short-cuts of `d` and `delta` all return zero -/
theorem shortcut_zero (o : U) (h : o ≠ U.hodge) (e r : XE) (hs : shortcut o e = some r) :
    r = zero := by
  cases o with
  | hodge => exact absurd rfl h
  | d => cases e <;> simp_all [shortcut]
  | delta => cases e <;> simp_all [shortcut]

/-- **Normal form, step 1**: whatever `d` (resp. `delta`) returns on a well-formed argument is
    an *image*: zero, a `d`-node, a sum of images, or coefficients times one image. -/
theorem eval_isImg (o : U) (ho : o ≠ U.hodge) (t : XE) (hwf : WF t = true) :
    isImg o (uEval o t) = true := by
  unfold isImg
  induction t using XE.sum_prod_induction with
  | add as ih =>
    simp only [WF, WFList_iff, List.all_eq_true] at hwf
    rw [uEval_add]
    exact isLin_sAdd _ _ (List.forall_mem_map.mpr fun a ha => ih a ha (hwf a ha))
  | mul as ih =>
    simp only [WF, WFList_iff, Bool.and_eq_true, List.all_eq_true] at hwf
    obtain ⟨hne, hall⟩ := hwf
    rw [uEval, mulBranch, rvs_eq]
    apply isLin_sMul _ (isNode_not_coef o) _ _ (fun c hc => (List.mem_filter.mp hc).2)
    -- the last factor is a node, or the value at the single non-coefficient factor
    have hne' : (vecs as).isEmpty = false := by simpa using hne
    simp only [hne', Bool.false_eq_true, if_false]
    split
    · exact isImg_node o _
    · split
      · rename_i v r hv hr
        have hmem : v ∈ as := (List.mem_filter.mp (hv ▸ List.mem_singleton_self v)).1
        rw [hv] at hr
        cases hr
        exact ih v hmem (hall v hmem)
      · exact isImg_node o _
  | atom e hna hnm =>
    rw [uEval_atom o e hna hnm]
    cases hs : shortcut o e with
    | none => exact isImg_node o e
    | some r => rw [shortcut_zero o ho e r hs]; exact isLin_zero _

/-- every operator vanishes on a coefficient — a number, a Constant or a power such as `c**2` -/
theorem eval_coef_zero (o : U) (a : XE) (h : isCoef a = true) : uEval o a = zero := by
  rcases isCoef_cases a h with ⟨p, q, rfl⟩ | ⟨s, rfl⟩ | ⟨b, e, rfl, hb, he⟩
  · cases o <;> simp [uEval, shortcut]
  · cases o <;> simp [uEval, shortcut]
  · cases o <;> simp [uEval, shortcut, isCoef, isRegPair, hb, he]

theorem lin_mul_vec (b : XE → Bool) (as : List XE) (h : isLin b (mul as) = true) :
    ∃ v, vecs as = [v] ∧ v ∈ as ∧ isLin b v = true ∧ (coefs as).isEmpty = false := by
  obtain ⟨hcs, hcnt, hall⟩ := isLin_mul_parts b as h
  rw [countVecs_eq] at hcnt
  match hv : vecs as, hcnt with
  | [v], _ =>
    have hm := List.mem_filter.mp (hv ▸ List.mem_singleton_self v)
    have hnc : isCoef v = false := by simpa using hm.2
    refine ⟨v, rfl, hm.1, ?_, hcs⟩
    simpa [hnc] using hall v hm.1

/-- **General zero theorem**: if operator `o` annihilates every base term, it annihilates every
    canonical linear combination of base terms. -/
theorem eval_lin_zero (o : U) (b : XE → Bool)
    (hbase : ∀ e, (∀ as, e ≠ add as) → (∀ as, e ≠ mul as) → b e = true →
      isZero (uEval o e) = true)
    (v : XE) (hv : isLin b v = true) : isZero (uEval o v) = true := by
  induction v using XE.sum_prod_induction with
  | add as ih =>
    rw [isLin_add, List.all_eq_true] at hv
    rw [uEval_add]
    exact isZero_sAdd _ (List.forall_mem_map.mpr fun a ha => ih a ha (hv a ha))
  | mul as ih =>
    obtain ⟨v, hvs, hmem, hlin, hcs⟩ := lin_mul_vec b as hv
    rw [eval_smul o as v hcs hvs, isZero_sMul, List.any_append, List.any_cons, ih v hmem hlin]
    simp
  | atom e hna hnm =>
    rcases isLin_atom b e hna hnm hv with ⟨q, rfl⟩ | hb
    · rw [eval_coef_zero o _ rfl]
      rfl
    · exact hbase e hna hnm hb

/-- **General map theorem**: if `o` sends base terms of kind `b` to canonical linear
    combinations of kind `b'`, it does so for every canonical linear combination. -/
theorem eval_lin_map (o : U) (b b' : XE → Bool) (hb' : ∀ e, b' e = true → isCoef e = false)
    (hbase : ∀ e, (∀ as, e ≠ add as) → (∀ as, e ≠ mul as) → b e = true →
      isLin b' (uEval o e) = true)
    (t : XE) (ht : isLin b t = true) : isLin b' (uEval o t) = true := by
  induction t using XE.sum_prod_induction with
  | add as ih =>
    rw [isLin_add, List.all_eq_true] at ht
    rw [uEval_add]
    exact isLin_sAdd _ _ (List.forall_mem_map.mpr fun a ha => ih a ha (ht a ha))
  | mul as ih =>
    obtain ⟨v, hvs, hmem, hlin, hcs⟩ := lin_mul_vec b as ht
    rw [eval_smul o as v hcs hvs]
    exact isLin_sMul b' hb' _ _ (fun c hc => (List.mem_filter.mp hc).2) (ih v hmem hlin)
  | atom e hna hnm =>
    rcases isLin_atom b e hna hnm ht with ⟨q, rfl⟩ | hb
    · rw [eval_coef_zero o _ rfl]
      exact isLin_zero b'
    · exact hbase e hna hnm hb

/-- **Normal form, step 2**: `d` (resp. `delta`) of an image is zero. -/
theorem eval_img_isZero (o : U) (ho : o ≠ U.hodge) (v : XE) (himg : isImg o v = true) :
    isZero (uEval o v) = true := by
  apply eval_lin_zero o (isNode o) _ v himg
  intro e _ _ he
  obtain ⟨a, rfl⟩ := isNode_cases o e he
  cases o with
  | hodge => exact absurd rfl ho
  | d => rfl
  | delta => rfl

/-- **d ∘ d = 0 and δ ∘ δ = 0** on every well-formed expression, whatever its shape:
    the value returned by the second application is (literally) zero. -/
theorem d_d_zero (t : XE) (h : WF t = true) : isZero (uEval .d (uEval .d t)) = true :=
  eval_img_isZero .d (by decide) _ (eval_isImg .d (by decide) t h)

theorem delta_delta_zero (t : XE) (h : WF t = true) :
    isZero (uEval .delta (uEval .delta t)) = true :=
  eval_img_isZero .delta (by decide) _ (eval_isImg .delta (by decide) t h)

/-- **d vanishes on top-degree forms** — and on every linear combination of them. -/
theorem d_top_zero (t : XE) (h : isLin (isFormP (fun k n => k == n)) t = true) :
    isZero (uEval .d t) = true := by
  apply eval_lin_zero .d _ _ t h
  intro e _ _ he
  obtain ⟨s, k, n, rfl, hkn⟩ := isFormP_cases _ e he
  simp only [uEval, shortcut, hkn, if_true]
  rfl

/-- **δ vanishes on 0-forms** — and on every linear combination of them. -/
theorem delta_zero_form_zero (t : XE) (h : isLin (isFormP (fun k _ => k == 0)) t = true) :
    isZero (uEval .delta t) = true := by
  apply eval_lin_zero .delta _ _ t h
  intro e _ _ he
  obtain ⟨s, k, n, rfl, hk⟩ := isFormP_cases _ e he
  simp only [uEval, shortcut, hk, if_true]
  rfl

theorem isHodgeOfForm_not_coef (e : XE) (h : isHodgeOfForm e = true) : isCoef e = false := by
  obtain ⟨s, k, n, rfl⟩ := isHodgeOfForm_cases e h
  rfl

/-- **⋆ of a linear combination of forms** is the same combination of ⋆-nodes … -/
theorem hodge_lin (t : XE) (h : isLin (isFormP (fun _ _ => true)) t = true) :
    isLin isHodgeOfForm (uEval .hodge t) = true := by
  apply eval_lin_map .hodge _ _ isHodgeOfForm_not_coef _ t h
  intro e _ _ he
  obtain ⟨s, k, n, rfl, -⟩ := isFormP_cases _ e he
  rfl

/-- … and **⋆⋆** of it is again a linear combination of *forms* (no ⋆ left): each `⋆⋆u` has
    been replaced by `(-1)^(k(n-k)) u` (the value is `hodge_hodge_value` below). -/
theorem hodge_hodge_lin (t : XE) (h : isLin (isFormP (fun _ _ => true)) t = true) :
    isLin (isFormP (fun _ _ => true)) (uEval .hodge (uEval .hodge t)) = true := by
  apply eval_lin_map .hodge isHodgeOfForm _ _ _ _ (hodge_lin t h)
  · intro e he
    obtain ⟨s, k, n, rfl, -⟩ := isFormP_cases _ e he
    rfl
  · intro e _ _ he
    obtain ⟨s, k, n, rfl⟩ := isHodgeOfForm_cases e he
    rfl

theorem hodge_hodge_value (s : String) (k n : Nat) :
    uEval .hodge (XE.hodge (form s k n)) = mul [num ((-1 : Int) ^ (k * (n - k))) 1, form s k n] := by
  simp [uEval, shortcut]

/-! ### constant coefficients: numbers, Constants **and powers of those** (`c*c = c**2`)

  After the `fix:` commit 5022685 a `Pow` whose base and exponent are registry members is a
  coefficient (`isCoef`), so every theorem above whose hypothesis is `WF` / `isLin` speaks about
  products with such factors too.  The theorems below make the coefficient laws explicit. -/

/-- what the coefficient notion is: exactly `_is_coeff` of calculus.py -/
theorem isCoef_pow (b e : XE) : isCoef (other "Pow" [b, e]) = (isReg b && isReg e) := by
  simp [isCoef, isRegPair]

theorem eval_cmul (o : U) (c x : XE) (hc : isCoef c = true) (hx : isCoef x = false) :
    uEval o (mul [c, x]) = sMul [c, uEval o x] := by
  have h1 : coefs [c, x] = [c] := by simp [coefs, hc, hx]
  have h2 : vecs [c, x] = [x] := by simp [vecs, hc, hx]
  rw [eval_smul o [c, x] x (by rw [h1]; rfl) h2, h1]
  rfl

/-- the shape of the former finding: `op(c**e * v) = c**e * op(v)` -/
theorem eval_pow_smul (o : U) (b e v : XE) (hb : isReg b = true) (he : isReg e = true)
    (hv : isCoef v = false) :
    uEval o (mul [other "Pow" [b, e], v]) = sMul [other "Pow" [b, e], uEval o v] :=
  eval_cmul o _ v (by rw [isCoef_pow, hb, he]; rfl) hv

/-- **⋆⋆(c·u) = (-1)^(k(n-k)) c·u** for every coefficient `c` (number, Constant, power) that is
    not literally 0 or 1 — for `c = c₀**2` this is the witness of the former finding C19-coef-pow -/
theorem hodge_hodge_cmul (c : XE) (hc : isCoef c = true) (h0 : isZero c = false)
    (h1 : isOne c = false) (s : String) (k n : Nat) :
    uEval .hodge (uEval .hodge (mul [c, form s k n]))
      = sMul [c, num ((-1 : Int) ^ (k * (n - k))) 1, form s k n] := by
  have e1 : uEval .hodge (mul [c, form s k n]) = mul [c, XE.hodge (form s k n)] := by
    rw [eval_cmul .hodge c _ hc rfl]
    exact sMul_coef_pair c (XE.hodge (form s k n)) hc h0 h1 (by intro ys h; cases h) rfl rfl
  rw [e1, eval_cmul .hodge c _ hc rfl, hodge_hodge_value]
  -- the inner product is spliced into the outer one
  unfold sMul
  rw [flatMulArgs_cons c _ (isCoef_ne_mul c hc), flatMulArgs_cons c _ (isCoef_ne_mul c hc)]
  rfl

/-! ### degree arithmetic (`infere_type`) -/

/-- the registry knows exactly the degrees 0..6 and returns the degree itself -/
theorem getIndexForm_spec (i : Int) :
    getIndexForm i = if 0 ≤ i ∧ i ≤ 6 then .ok (some i.toNat) else .error .valueError := rfl

theorem infer_form (s : String) (k n : Nat) (h : k ≤ 6) : infer (form s k n) = .ok (some k) := by
  simp [infer, getIndexForm]; omega

/-- `d` raises the degree by one -/
theorem infer_d (a : XE) (k : Nat) (h : infer a = .ok (some k)) :
    infer (XE.d a) = getIndexForm (k + 1) := by
  simp [infer, h, bind, Except.bind]

/-- `delta` lowers the degree by one (and is refused on a 0-form: index −1 is not registered) -/
theorem infer_delta (a : XE) (k : Nat) (h : infer a = .ok (some k)) :
    infer (XE.delta a) = getIndexForm ((k : Int) - 1) := by
  simp [infer, h, bind, Except.bind]

/-- the Hodge star sends degree `k` to `n - k`, `n` being the dimension of the argument's forms -/
theorem infer_hodge (a : XE) (k n : Nat) (ns : List Nat) (h : infer a = .ok (some k))
    (hd : dims a = n :: ns) : infer (XE.hodge a) = getIndexForm ((n : Int) - k) := by
  simp [infer, h, hd, bind, Except.bind]

/-- the wedge product adds degrees -/
theorem infer_wedge (a b : XE) (k l : Nat) (ha : infer a = .ok (some k))
    (hb : infer b = .ok (some l)) : infer (wedge a b) = getIndexForm (k + l) := by
  simp [infer, ha, hb, bind, Except.bind]

/-- **a constant multiple keeps the degree**: a product with exactly one non-coefficient factor
    `v` — the other factors being numbers, Constants or powers of those (`c**2 * v`) — has the
    inferred degree of `v`, and is refused exactly when `v` is (inference.py Mul branch) -/
theorem infer_cmul (as : List XE) (v : XE) (hv : vecs as = [v]) : infer (mul as) = infer v := by
  have hcnt : countVecs as = 1 := by rw [countVecs_eq, hv]; rfl
  have h := inferList_vecs as
  rw [hv, inferList_cons] at h
  simp only [infer, hcnt]
  -- `h` relates the two inferences; they fail together, with the same error
  cases hl : inferList as with
  | error e =>
    cases hi : infer v with
    | error e' => rw [hl, hi] at h; cases h; rfl
    | ok t => rw [hl, hi] at h; cases h
  | ok ts =>
    cases hi : infer v with
    | error e' => rw [hl, hi] at h; cases h
    | ok t =>
      rw [hl, hi] at h
      injection h with h
      simp only [bind, Except.bind, beq_self_eq_true, if_true, h]

theorem dedupOpt_mem (ts : List (Option Nat)) (t : Option Nat) :
    t ∈ dedupOpt ts ↔ t ∈ ts := by
  induction ts with
  | nil => exact Iff.rfl
  | cons a as ih =>
    rw [dedupOpt, List.mem_cons]
    split
    · rename_i hc
      have ha : a ∈ dedupOpt as := List.contains_iff_mem.mp hc
      exact ⟨fun h => Or.inr (ih.mp h), fun h => h.elim (fun e => e ▸ ha) ih.mpr⟩
    · rw [List.mem_cons, ih]

/-- **a sum whose terms have two different inferred degrees is refused** -/
theorem infer_mixed_refused (as : List XE) (ts : List (Option Nat)) (t1 t2 : Option Nat)
    (h : inferList as = .ok ts) (h1 : t1 ∈ ts) (h2 : t2 ∈ ts) (hne : t1 ≠ t2) :
    infer (add as) = .error .valueError := by
  simp only [infer, h, bind, Except.bind]
  have m1 := (dedupOpt_mem ts t1).mpr h1
  have m2 := (dedupOpt_mem ts t2).mpr h2
  split
  · rename_i t heq
    rw [heq, List.mem_singleton] at m1 m2
    exact absurd (m1.trans m2.symm) hne
  · rfl

theorem dedupOpt_const (ts : List (Option Nat)) (t : Option Nat) (hne : ts ≠ [])
    (hall : ∀ x ∈ ts, x = t) : dedupOpt ts = [t] := by
  induction ts with
  | nil => exact absurd rfl hne
  | cons a as ih =>
    obtain rfl := hall a (by simp)
    cases as with
    | nil => rfl
    | cons b bs =>
      rw [dedupOpt, ih (by simp) (fun x hx => hall x (List.mem_cons_of_mem _ hx))]
      simp

/-- a non-empty sum whose terms all have the same inferred degree gets that degree -/
theorem infer_add_same (as : List XE) (ts : List (Option Nat)) (t : Option Nat)
    (h : inferList as = .ok ts) (hne : ts ≠ []) (hall : ∀ x ∈ ts, x = t) :
    infer (add as) = .ok t := by
  simp only [infer, h, bind, Except.bind, dedupOpt_const ts t hne hall]

/-! ### non-vacuity: concrete non-trivial arguments meet the hypotheses -/

example : WF (mul [num 2 1, XE.d (form "u" 1 3)]) = true := by decide
example : isZero (uEval .d (mul [num 2 1, XE.d (form "u" 1 3)])) = true := by decide
example : isLin (isFormP (fun _ _ => true))
    (add [mul [num 2 1, form "u" 1 3], mul [cst "c", form "w" 2 3]]) = true := by decide
example : uEval .hodge (uEval .hodge (add [mul [num 2 1, form "u" 1 2], form "w" 2 3]))
    = add [mul [num 2 1, num (-1) 1, form "u" 1 2], mul [num 1 1, form "w" 2 3]] := by rfl
example : infer (add [XE.d (form "u" 1 3), form "w" 1 3]) = .error .valueError := by rfl
-- powers of constants are coefficients: the witness of the former finding C19-coef-pow and friends
example : isCoef (other "Pow" [cst "c", num 2 1]) = true := by decide
example : isCoef (other "Pow" [other "Symbol" [], num 2 1]) = false := by decide
example : WF (mul [other "Pow" [cst "c", num 2 1], form "u1_3" 1 3]) = true := by decide
example : uEval .hodge (uEval .hodge (mul [other "Pow" [cst "c", num 2 1], form "u1_3" 1 3]))
    = mul [other "Pow" [cst "c", num 2 1], form "u1_3" 1 3] := by rfl
example : uEval .d (mul [num 4 1, other "Pow" [cst "c", num 2 1], other "Pow" [cst "e", num 3 1],
      add [form "u" 1 3, form "w" 1 3]])
    = mul [num 4 1, other "Pow" [cst "c", num 2 1], other "Pow" [cst "e", num 3 1],
        add [XE.d (form "u" 1 3), XE.d (form "w" 1 3)]] := by rfl
example : isZero (uEval .d (uEval .d (mul [other "Pow" [cst "c", num 2 1], form "u" 1 3]))) = true := by
  decide
example : isLin (isFormP (fun k n => k == n))
    (mul [other "Pow" [cst "c", cst "e"], form "t" 3 3]) = true := by decide
example : infer (add [mul [other "Pow" [cst "c", num 2 1], XE.d (form "u" 1 3)],
    mul [other "Pow" [cst "c", num 2 1], form "u" 1 3]]) = .error .valueError := by rfl

end Sympde.Ext

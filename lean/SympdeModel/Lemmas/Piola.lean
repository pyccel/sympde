/-
  The commuting relations of div and curl with the Piola pull-backs, as identities of vector
  calculus in the logical coordinates of a differential ring (C03).  The rows `p`, `q`, `r` stand for
  the rows of a Jacobian `∂̂_l F_i`, i.e. they are logical gradients: `∂̂_l' p_l = ∂̂_l p_l'`.  The
  cofactor rows of the Jacobian are `(q₂, -q₁)`, `(-p₂, p₁)` in 2-D and the cross products `q × r`,
  `r × p`, `p × q` in 3-D.  A covariant field is `u = Σ v_i ∇̂F_i = Jᵀ v`, a contravariant one
  `u = Σ w_i cof_i = adj(J) w`; neither the determinant nor its derivative occurs in the commuting identities
  (only the chain rule for coordinates, `dp_coords2`, is stated with `det · δ = 1`).
-/
import SympdeModel.Sem.DRing

namespace Sympde
namespace Piola

variable {K : Type} [CommRing K] [Algebra ℚ K] (S : DRing K)

/-! ### dimension 2 -/
section dim2
variable (a11 a12 a21 a22 δ : K)

/-- physical derivatives in 2-D through the inverse Jacobian `adj·δ` -/
def dp1 (k : K) : K := δ * (a22 * S.D .x1 k - a21 * S.D .x2 k)
def dp2 (k : K) : K := δ * (-a12 * S.D .x1 k + a11 * S.D .x2 k)

/-- the chain rule gives the coordinates the right derivatives: `∂_i F_k = δ_ik` -/
theorem dp_coords2 (F1 F2 : K) (h : (a11 * a22 - a12 * a21) * δ = 1)
    (h11 : S.D .x1 F1 = a11) (h12 : S.D .x2 F1 = a12) (h21 : S.D .x1 F2 = a21) (h22 : S.D .x2 F2 = a22) :
    dp1 S a21 a22 δ F1 = 1 ∧ dp1 S a21 a22 δ F2 = 0 ∧ dp2 S a11 a12 δ F1 = 0 ∧ dp2 S a11 a12 δ F2 = 1 := by
  simp only [dp1, dp2, h11, h12, h21, h22]
  refine ⟨?_, ?_, ?_, ?_⟩
  · linear_combination h
  · ring
  · ring
  · linear_combination h

end dim2

/-! the rows `p`, `q` of the Jacobian are logical gradients: `∂̂₂ p₁ = ∂̂₁ p₂` -/
section
variable (p1 p2 q1 q2 δ : K)

/-- `div̂ (wp (q₂, -q₁) + wq (-p₂, p₁)) = (q₂, -q₁)·∇̂wp + (-p₂, p₁)·∇̂wq`: the cofactor rows of a
    Jacobian are divergence-free -/
theorem div_cof_comb2 (wp wq u1 u2 : K) (hu1 : u1 = wp * q2 - wq * p2) (hu2 : u2 = wq * p1 - wp * q1)
    (hp : S.D .x2 p1 = S.D .x1 p2) (hq : S.D .x2 q1 = S.D .x1 q2) :
    δ * (S.D .x1 u1 + S.D .x2 u2) = dp1 S q1 q2 δ wp + dp2 S p1 p2 δ wq := by
  subst hu1 hu2
  simp only [dp1, dp2, S.D_sub, S.D_mul, hp, hq]
  ring

/-- `curl̂ (vp p + vq q) = ∇̂vp × p + ∇̂vq × q` for two gradients `p`, `q` -/
theorem curl_comb2 (vp vq u1 u2 : K) (hu1 : u1 = vp * p1 + vq * q1) (hu2 : u2 = vp * p2 + vq * q2)
    (hp : S.D .x2 p1 = S.D .x1 p2) (hq : S.D .x2 q1 = S.D .x1 q2) :
    δ * (S.D .x1 u2 - S.D .x2 u1) = dp1 S q1 q2 δ vq - dp2 S p1 p2 δ vp := by
  subst hu1 hu2
  simp only [dp1, dp2, S.D_add, S.D_mul, hp, hq]
  ring

end

/-! ### dimension 3 -/
section dim3
variable (p1 p2 p3 q1 q2 q3 r1 r2 r3 : K)

/-- `curl̂ p = 0`, as for a row `p = ∇̂F` of a Jacobian (symmetric second derivatives of `F`) -/
def CurlFree : Prop := S.D .x2 p1 = S.D .x1 p2 ∧ S.D .x3 p1 = S.D .x1 p3 ∧ S.D .x3 p2 = S.D .x2 p3

/-- `div̂ (p × q) = q · curl̂ p − p · curl̂ q = 0` for two gradients: the rows of the cofactor matrix
    of a Jacobian are divergence-free (Piola identity) -/
theorem div_cross (hp : CurlFree S p1 p2 p3) (hq : CurlFree S q1 q2 q3) :
    S.D .x1 (p2 * q3 - p3 * q2) + S.D .x2 (p3 * q1 - p1 * q3) + S.D .x3 (p1 * q2 - p2 * q1) = 0 := by
  simp only [S.D_sub, S.D_mul, hp.1, hp.2.1, hp.2.2, hq.1, hq.2.1, hq.2.2]
  ring

/-- `div̂ (wp (q × r) + wq (r × p) + wr (p × q)) = (q × r)·∇̂wp + (r × p)·∇̂wq + (p × q)·∇̂wr` -/
theorem div_cof_comb (wp wq wr u1 u2 u3 : K)
    (hu1 : u1 = wp * (q2 * r3 - q3 * r2) + wq * (r2 * p3 - r3 * p2) + wr * (p2 * q3 - p3 * q2))
    (hu2 : u2 = wp * (q3 * r1 - q1 * r3) + wq * (r3 * p1 - r1 * p3) + wr * (p3 * q1 - p1 * q3))
    (hu3 : u3 = wp * (q1 * r2 - q2 * r1) + wq * (r1 * p2 - r2 * p1) + wr * (p1 * q2 - p2 * q1))
    (hp : CurlFree S p1 p2 p3) (hq : CurlFree S q1 q2 q3) (hr : CurlFree S r1 r2 r3) :
    S.D .x1 u1 + S.D .x2 u2 + S.D .x3 u3
      = ((q2 * r3 - q3 * r2) * S.D .x1 wp + (q3 * r1 - q1 * r3) * S.D .x2 wp + (q1 * r2 - q2 * r1) * S.D .x3 wp)
      + ((r2 * p3 - r3 * p2) * S.D .x1 wq + (r3 * p1 - r1 * p3) * S.D .x2 wq + (r1 * p2 - r2 * p1) * S.D .x3 wq)
      + ((p2 * q3 - p3 * q2) * S.D .x1 wr + (p3 * q1 - p1 * q3) * S.D .x2 wr + (p1 * q2 - p2 * q1) * S.D .x3 wr) := by
  subst hu1 hu2 hu3
  simp only [S.D_add, S.D_mul _ wp, S.D_mul _ wq, S.D_mul _ wr]
  linear_combination wp * div_cross S q1 q2 q3 r1 r2 r3 hq hr + wq * div_cross S r1 r2 r3 p1 p2 p3 hr hp
    + wr * div_cross S p1 p2 p3 q1 q2 q3 hp hq

/-- `p · curl̂ (vp p + vq q + vr r) = (r × p)·∇̂vr − (p × q)·∇̂vq`: the curl of `Σ v ∇̂F` is
    `Σ ∇̂v × ∇̂F`, and `p · (∇̂v × r) = ∇̂v · (r × p)`.  The other two rows are the same statement with
    `p, q, r` rotated. -/
theorem dot_curl_comb (vp vq vr u1 u2 u3 : K)
    (hu1 : u1 = vp * p1 + vq * q1 + vr * r1) (hu2 : u2 = vp * p2 + vq * q2 + vr * r2)
    (hu3 : u3 = vp * p3 + vq * q3 + vr * r3)
    (hp : CurlFree S p1 p2 p3) (hq : CurlFree S q1 q2 q3) (hr : CurlFree S r1 r2 r3) :
    p1 * (S.D .x2 u3 - S.D .x3 u2) + p2 * (S.D .x3 u1 - S.D .x1 u3) + p3 * (S.D .x1 u2 - S.D .x2 u1)
      = ((r2 * p3 - r3 * p2) * S.D .x1 vr + (r3 * p1 - r1 * p3) * S.D .x2 vr + (r1 * p2 - r2 * p1) * S.D .x3 vr)
      - ((p2 * q3 - p3 * q2) * S.D .x1 vq + (p3 * q1 - p1 * q3) * S.D .x2 vq + (p1 * q2 - p2 * q1) * S.D .x3 vq) := by
  subst hu1 hu2 hu3
  simp only [S.D_add, S.D_mul, hp.1, hp.2.1, hp.2.2, hq.1, hq.2.1, hq.2.2, hr.1, hr.2.1, hr.2.2]
  ring

end dim3

end Piola
end Sympde

/-
  For C11 (`norm_kernel_sound_*`): the generic integrand assembled by the model of `Norm`/`SemiNorm`
  (Model/Norm.lean) is well typed in the fragment of `lower_sound` (typing judgement `ty`,
  Lemmas/LowerTy.lean) whenever the error expression is; how `Norm.kernel` dispatches on its
  argument; and the lowering of the parts of the integrand of a vector argument, which reach the
  leaf classes as a `Tuple`.
-/
import SympdeModel.Model.Norm
import SympdeModel.Lemmas.LowerInd
namespace Sympde.Norm
open E Lower

variable {K : Type} [CommRing K] [Algebra ℚ K]

/-! ### typing of the assembled integrand -/

theorem ty_scalar_of (d : Nat) (e : E) (hwt : (ty d e).isSome = true) (hr : rank d e = 0) :
    ty d e = some .s := by
  cases hτ : ty d e with
  | none => rw [hτ] at hwt; cases hwt
  | some τ =>
    have h := ty_rank d e τ hτ
    rw [hr] at h
    cases τ <;> simp [rk] at h ⊢

theorem ty_sq (d : Nat) (e : E) (h : ty d e = some .s) : ty d (sq e) = some .s := by
  simp [sq, ty, tyMul, tyMulAcc, h, tmul]

theorem ty_gradSq (d : Nat) (e : E) (h : ty d e = some .s) : ty d (gradSq e) = some .s := by
  simp [gradSq, ty, h, ty1, ty2]

theorem ty_hessSq (d : Nat) (e : E) (h : ty d e = some .s) : ty d (hessSq e) = some .s := by
  simp [hessSq, ty, h, ty1, ty2]

theorem ty_scalarIntegrand (d : Nat) (semi : Bool) (k : NK) (e : E) (h : ty d e = some .s) :
    ty d (scalarIntegrand semi k e) = some .s := by
  have h1 := ty_sq d e h
  have h2 := ty_gradSq d e h
  have h3 := ty_hessSq d e h
  cases k <;> cases semi <;> simp [scalarIntegrand, ty, tyAdd, tyAll, h1, h2, h3]

theorem tyAll_map_hessSq (d : Nat) (es : List E) (h : ∀ e ∈ es, ty d e = some .s) :
    tyAll d .s (es.map hessSq) = true := by
  induction es with
  | nil => simp [tyAll]
  | cons x xs ih =>
    simp only [List.map, tyAll, Bool.and_eq_true, beq_iff_eq]
    exact ⟨ty_hessSq d x (h x (by simp)), ih (fun e he => h e (by simp [he]))⟩

theorem ty_vecHessSq (d : Nat) (es : List E) (hne : es ≠ []) (h : ∀ e ∈ es, ty d e = some .s) :
    ty d (vecHessSq es) = some .s := by
  cases es with
  | nil => exact absurd rfl hne
  | cons x xs =>
    have hx := ty_hessSq d x (h x (by simp))
    have hxs := tyAll_map_hessSq d xs (fun e he => h e (by simp [he]))
    simp [vecHessSq, ty, tyAdd, hx, hxs]

/-! ### the dispatch of `kernel` on its argument -/

theorem kernel_scalar (d : Nat) (lg semi : Bool) (k : NK) (e : E) (h : ∀ es, e ≠ tup es) :
    kernel d lg semi k e = Lower.lower d lg (scalarIntegrand semi k e) := by
  unfold kernel
  split
  · exact absurd rfl (h _)
  · rfl

theorem kernel_vector (d : Nat) (lg semi : Bool) (k : NK) (es : List E) :
    kernel d lg semi k (tup es) = Lower.lower d lg (vectorIntegrand semi k es) := rfl

theorem ty_not_tup (d : Nat) (e : E) (τ : Ty) (h : ty d e = some τ) : ∀ es, e ≠ tup es := by
  intro es he; subst he; simp [ty] at h

/-! ### vector arguments: the `Tuple` of the components

  `Lower.lower` leaves a `tup` node as it is (the components are *not* lowered), and the leaf
  classes are applied to it with signature `t`.  The catalogue gives the signature `t` the formula
  of the signature `v` (a `d×1` column) — checked by evaluation against the regenerated table — and
  binds the same components, so the steps of C01 for a column apply. -/

theorem denNth_LS (S : DRing K) (d : Nat) (lg : Bool) (es : List E) (h : LSList es = true) (n : Nat) :
    denNth S es n = denGNth S d lg es n := by
  induction es generalizing n with
  | nil => rfl
  | cons a as ih =>
    simp only [LSList, Bool.and_eq_true] at h
    cases n with
    | zero => exact (denG_LX S d lg a (LS_LX_NDk S 0 a h.1).1 0 0).symm
    | succ n => exact ih h.2 n

theorem good_tup (S : DRing K) (d : Nat) (lg : Bool) (es : List E) (hLS : LSList es = true)
    (hl : es.length = d) :
    Good S d lg (Shaped (fun t => LS t = true) d) .v (tup es) (mat d 1 es) := by
  refine ⟨Or.inr ⟨es, rfl, by simp [cols, hl], fun e he => LSList_mem hLS he, nofun⟩,
    fun i j hij => ?_⟩
  obtain ⟨hi, rfl⟩ := hij
  simp only [den, denG, hi, Nat.zero_lt_one, and_self, if_true, Nat.mul_one, Nat.add_zero]
  exact denNth_LS S d lg es hLS i

theorem bindArg_tup (d k : Nat) (es : List E) (hl : es.length = d) :
    bindArg d k (tup es) = bindArg d k (mat d 1 es) := by
  simp [bindArg, hl]

theorem sigOf_tup (d : Nat) (es : List E) (hl : es.length = d) : sigOf d (tup es) = some 't' := by
  simp [sigOf, hl]

theorem applyLeaf_congr (d : Nat) (cn : String) (args args' : List E) (cs cs' : List Char)
    (h : args.mapM (sigOf d) = some cs) (h' : args'.mapM (sigOf d) = some cs')
    (hlk : lookup cn (String.ofList cs) = lookup cn (String.ofList cs'))
    (hσ : sigmaOf d args = sigmaOf d args') : applyLeaf d cn args = applyLeaf d cn args' := by
  unfold sigmaOf at hσ
  simp only [applyLeaf, h, h', hlk, hσ]

theorem applyLeaf_tup1 (d : Nat) (cn : String) (es : List E) (hl : es.length = d)
    (hlk : lookup cn "t" = lookup cn "v") :
    applyLeaf d cn [tup es] = applyLeaf d cn [mat d 1 es] :=
  applyLeaf_congr d cn _ _ ['t'] ['v'] (by simp [sigOf_tup d es hl]) (by simp [sigOf_col d es]) hlk
    (by simp [sigmaOf, List.zipIdx, bindArg_tup d _ es hl])

theorem applyLeaf_tup2 (d : Nat) (cn : String) (es : List E) (hl : es.length = d)
    (hlk : lookup cn "tt" = lookup cn "vv") :
    applyLeaf d cn [tup es, tup es] = applyLeaf d cn [mat d 1 es, mat d 1 es] :=
  applyLeaf_congr d cn _ _ ['t', 't'] ['v', 'v'] (by simp [sigOf_tup d es hl]) (by simp [sigOf_col d es])
    hlk (by simp [sigmaOf, List.zipIdx, bindArg_tup d _ es hl])

/-- a leaf class applied to a `Tuple` of the wrong length has no signature: it does not return -/
theorem applyLeaf_tup_len (d : Nat) (cn : String) (es : List E) (rest : List E) (t : E)
    (h : applyLeaf d cn (tup es :: rest) = .ok t) : es.length = d := by
  by_contra hne
  have h1 : (tup es :: rest).mapM (sigOf d) = none := by simp [sigOf, hne]
  unfold applyLeaf at h
  rw [h1] at h
  split at h <;> cases h

theorem lookup_grad_tv (d : Nat) (hd : d = 1 ∨ d = 2 ∨ d = 3) (lg : Bool) :
    lookup ((if lg then "Logical" else "") ++ "Grad" ++ "_" ++ toString d ++ "d") "t"
      = lookup ((if lg then "Logical" else "") ++ "Grad" ++ "_" ++ toString d ++ "d") "v" := by
  rcases hd with rfl | rfl | rfl <;> cases lg <;> decide +kernel

theorem lookup_dot_tv (d : Nat) (hd : d = 1 ∨ d = 2 ∨ d = 3) (lg : Bool) :
    lookup (op2Name lg .dot d) "tt" = lookup (op2Name lg .dot d) "vv" := by
  show lookup (op2Name false .dot d) "tt" = lookup (op2Name false .dot d) "vv"
  rcases hd with rfl | rfl | rfl <;> decide +kernel

theorem lower_tup (d : Nat) (lg : Bool) (es : List E) : lower d lg (tup es) = .ok (tup es) := by
  simp [lower]

/-- `Dot(v, v)` on the `Tuple` of lowered components is lowered exactly when the `Tuple` has `d`
    components, and what is returned denotes Σ e_i² -/
theorem lower_vecSq (S : DRing K) (d : Nat) (hd : d = 1 ∨ d = 2 ∨ d = 3) (lg : Bool)
    (es : List E) (hLS : LSList es = true) :
    Res (es.length = d) (Good S d lg (Shaped (fun t => LS t = true) d) .s (vecSq es)) (lower d lg (vecSq es)) := by
  unfold vecSq
  simp only [lower_op2, lower_tup, bind, Except.bind]
  refine Res.assume (fun t h => applyLeaf_tup_len d _ es _ t h) fun hl => ?_
  rw [applyLeaf_tup2 d _ es hl (lookup_dot_tv d hd lg)]
  have g := good_tup S d lg es hLS hl
  exact op2_step (forms_LS S d _) hd lg .dot .v .v .s rfl 0 (tup es) (tup es) _ _ rfl rfl g g

/-- `Inner(Grad(v), Grad(v))` on the `Tuple` of lowered components: Σ_ij (∂_i e_j)² -/
theorem lower_vecGradSq (S : DRing K) (d : Nat) (hd : d = 1 ∨ d = 2 ∨ d = 3) (lg : Bool)
    (es : List E) (hLS : LSList es = true) :
    Res (es.length = d) (Good S d lg (Shaped (fun t => LS t = true) d) .s (vecGradSq es)) (lower d lg (vecGradSq es)) := by
  unfold vecGradSq
  rw [lower_op2, lower_op1 d lg .grad (tup es) "Grad" rfl, lower_tup]
  have hg : Res (es.length = d) (Good S d lg (Shaped (fun t => LS t = true) d) .m (op1 .grad (tup es)))
      (applyLeaf d ((if lg then "Logical" else "") ++ "Grad" ++ "_" ++ toString d ++ "d") [tup es]) := by
    refine Res.assume (fun t h => applyLeaf_tup_len d _ es _ t h) fun hl => ?_
    rw [applyLeaf_tup1 d _ es hl (lookup_grad_tv d hd lg)]
    exact op1_step (forms_LS S d _) hd lg .grad .v .m rfl "Grad" rfl 0 (tup es) _ rfl
      (good_tup S d lg es hLS hl)
  exact hg.bind fun g' gg => hg.bind fun g'' gg' =>
    op2_step (forms_LS S d _) hd lg .inner .m .m .s rfl 0 _ _ g' g'' rfl rfl gg gg'

/-- the H2 part of a vector argument goes through `lower_forms`: its terms are scalars of the fragment -/
theorem lower_vecHessSq (S : DRing K) (d : Nat) (hd : d = 1 ∨ d = 2 ∨ d = 3) (lg : Bool)
    (es : List E) (hty : ∀ e ∈ es, ty d e = some .s) :
    Res (es ≠ []) (Good S d lg (Shaped (fun t => LS t = true) d) .s (vecHessSq es)) (lower d lg (vecHessSq es)) := by
  refine Res.assume (fun t h he => ?_) fun hne =>
    (lower_ty_res S d hd lg _ .s (ty_vecHessSq d es hne hty)).imp_total fun _ => trivial
  subst he
  simp [vecHessSq, lower, lowerList, foldV, bind, Except.bind] at h

theorem lower_vecSq_len (d : Nat) (lg : Bool) (es : List E) (t : E)
    (h : lower d lg (vecSq es) = .ok t) : es.length = d := by
  unfold vecSq at h
  simp only [lower_op2, lower_tup, bind, Except.bind] at h
  exact applyLeaf_tup_len d _ es _ t h

theorem lower_vecGradSq_len (d : Nat) (lg : Bool) (es : List E) (t : E)
    (h : lower d lg (vecGradSq es) = .ok t) : es.length = d := by
  unfold vecGradSq at h
  rw [lower_op2, lower_op1 d lg .grad (tup es) "Grad" rfl, lower_tup] at h
  obtain ⟨g, hg, _⟩ := bind_ok h
  exact applyLeaf_tup_len d _ es _ g hg

theorem lower_add_mem (d : Nat) (lg : Bool) (as : List E) (t : E) (h : lower d lg (add as) = .ok t) :
    ∀ a ∈ as, ∃ ta, lower d lg a = .ok ta := by
  rw [lower_add] at h
  obtain ⟨ts, hts, _⟩ := bind_ok h
  have F := (lowerList_res (total := False) d lg (fun a t => lower d lg a = .ok t) as fun a _ =>
    ⟨False.elim, fun _ h => h⟩).2 ts hts
  exact fun a ha => (forall₂_mem_left F a ha).elim fun ta h => ⟨ta, h.2⟩

theorem good_scalar (S : DRing K) (d : Nat) (hd : 1 ≤ d) (lg : Bool) (a t : E)
    (g : Good S d lg (Shaped (fun t => LS t = true) d) .s a t) (i j : Nat) :
    den S t i j = denG S d lg a 0 0 := by
  have ht : LS t = true := g.1.elim (·.1) fun ⟨_, _, _, _, h⟩ => absurd rfl h
  rw [den_LS_free S t ht i j, g.2 0 0 (InR_zero_zero d hd _)]

end Sympde.Norm

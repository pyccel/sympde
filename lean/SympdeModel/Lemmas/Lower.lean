/-
  Computations that may fail (`Res`: value and totality in one statement), the lowered scalar forms
  `LS`, on which the coordinate operators return, are closed and exact in every differential ring
  (`dEval_LS`; `dEval_sound` of Props/C05 needs the table of elementary functions, which `LS` does
  not contain), and the differential ring `bindS S σ` in which the placeholder atoms of a leaf
  formula denote the components of the arguments.
-/
import Mathlib.Algebra.Algebra.Basic
import Mathlib.Algebra.Ring.PUnit
import SympdeModel.Model.Lower
import SympdeModel.Sem.DenG
import SympdeModel.Lemmas.ExprEq
import SympdeModel.Props.C05
namespace Sympde

instance : DecidableEq E := fun a b =>
  decidable_of_iff ((a == b) = true) ⟨E.eq_of_beq, fun h => h ▸ E.beq_refl a⟩

deriving instance DecidableEq for Gen.LeafOut

namespace Lower
open E PD

variable {K : Type} [CommRing K] [Algebra ℚ K]

/-! ### computations that may fail -/

/-- `x` returns only values satisfying `Q`; and if `total` holds, it does return a value -/
def Res {α : Type} (total : Prop) (Q : α → Prop) (x : Except Err α) : Prop :=
  (total → ∃ a, x = .ok a) ∧ ∀ a, x = .ok a → Q a

theorem Res.ok {α : Type} {total : Prop} {Q : α → Prop} {a : α} (h : Q a) : Res total Q (.ok a) :=
  ⟨fun _ => ⟨a, rfl⟩, fun b hb => by cases hb; exact h⟩

theorem Res.mono {α : Type} {total : Prop} {P Q : α → Prop} {x : Except Err α} (hx : Res total P x)
    (h : ∀ a, P a → Q a) : Res total Q x :=
  ⟨hx.1, fun a ha => h a (hx.2 a ha)⟩

theorem Res.bind {α β : Type} {total : Prop} {P : α → Prop} {Q : β → Prop} {x : Except Err α}
    {f : α → Except Err β} (hx : Res total P x) (hf : ∀ a, P a → Res total Q (f a)) :
    Res total Q (x >>= f) := by
  cases x with
  | error e => exact ⟨fun ht => (hx.1 ht).elim (fun a ha => nomatch ha), fun b hb => nomatch hb⟩
  | ok a => exact hf a (hx.2 a rfl)

theorem Res.imp_total {α : Type} {total total' : Prop} {Q : α → Prop} {x : Except Err α}
    (hx : Res total Q x) (h : total' → total) : Res total' Q x :=
  ⟨fun ht => hx.1 (h ht), hx.2⟩

theorem Res.with_eq {α : Type} {total : Prop} {P : α → Prop} {x : Except Err α} (hx : Res total P x) :
    Res total (fun a => x = .ok a ∧ P a) x :=
  ⟨hx.1, fun a ha => ⟨ha, hx.2 a ha⟩⟩

theorem Res.assume {α : Type} {p : Prop} {Q : α → Prop} {x : Except Err α}
    (hp : ∀ a, x = .ok a → p) (h : p → Res p Q x) : Res p Q x :=
  ⟨fun hp' => (h hp').1 hp', fun a ha => (h (hp a ha)).2 a ha⟩

/-! ### lowered scalar forms -/

mutual
/-- scalar terms produced by lowering: numbers, constants, coordinates, functions, vector
    components, derivative chains, sums and products of these -/
def LS : E → Bool
  | num _ _ => true
  | cst _ => true
  | sym _ => true
  | sf _ _ => true
  | idx (vf _ _) _ => true
  | pd _ a => LS a
  | add as => LSList as
  | mul as => LSList as
  | _ => false
def LSList : List E → Bool
  | [] => true
  | a :: as => LS a && LSList as
end

theorem LSList_iff (as : List E) : LSList as = as.all LS := by
  induction as with
  | nil => simp [LSList]
  | cons a as ih => simp [LSList, ih]

theorem LSList_mem {as : List E} (h : LSList as = true) {a : E} (ha : a ∈ as) : LS a = true := by
  rw [LSList_iff, List.all_eq_true] at h
  exact h a ha

theorem LSList_of_mem {as : List E} (h : ∀ a ∈ as, LS a = true) : LSList as = true := by
  rw [LSList_iff, List.all_eq_true]; exact h

theorem LS_zero : LS zero = true := rfl
theorem LS_one : LS one = true := rfl

theorem LS_idx {b : E} {i : Nat} (h : LS (idx b i) = true) : ∃ n k, b = vf n k := by
  cases b <;> first | exact ⟨_, _, rfl⟩ | exact nomatch h

theorem LS_NonDeg (S : DRing K) (e : E) (h : LS e = true) : NonDeg S e := by
  induction e using E.induction with
  | add as ih => exact NonDegList_of_mem S as (fun a ha => ih a ha (LSList_mem h ha))
  | mul as ih => exact NonDegList_of_mem S as (fun a ha => ih a ha (LSList_mem h ha))
  | pd c a ih => exact ih h
  | idx b i _ => obtain ⟨n, k, rfl⟩ := LS_idx h; trivial
  | num _ _ | cst _ | sym _ | sf _ _ => trivial
  | _ => exact nomatch h

theorem denSum_congr (S : DRing K) (as : List E) (i j i' j' : Nat)
    (h : ∀ a ∈ as, den S a i j = den S a i' j') : denSum S as i j = denSum S as i' j' := by
  induction as with
  | nil => rfl
  | cons a as ih =>
    simp only [denSum]
    rw [h a (by simp), ih (fun x hx => h x (by simp [hx]))]

theorem denProd_congr (S : DRing K) (as : List E) (i j i' j' : Nat)
    (h : ∀ a ∈ as, den S a i j = den S a i' j') : denProd S as i j = denProd S as i' j' := by
  induction as with
  | nil => rfl
  | cons a as ih =>
    simp only [denProd]
    rw [h a (by simp), ih (fun x hx => h x (by simp [hx]))]

theorem den_LS_free (S : DRing K) (e : E) (h : LS e = true) (i j : Nat) :
    den S e i j = den S e 0 0 := by
  induction e using E.induction with
  | add as ih => exact denSum_congr S as i j 0 0 (fun a ha => ih a ha (LSList_mem h ha))
  | mul as ih => exact denProd_congr S as i j 0 0 (fun a ha => ih a ha (LSList_mem h ha))
  | pd c a ih => exact congrArg (S.D c) (ih h)
  | num _ _ | cst _ | sym _ | sf _ _ | idx _ _ _ => rfl
  | _ => exact nomatch h

theorem mulOf_LS (l : List E) (h : ∀ a ∈ l, LS a = true) : LS (mulOf l) = true := by
  match l, h with
  | [], _ => rfl
  | [a], h => exact h a (by simp)
  | a :: b :: rest, h => exact LSList_of_mem h

/-! ### the model of `sympy.diff` on function-free lowered forms (polynomials in the coordinates) -/

theorem LS_pair {a b : E} (ha : LS a = true) (hb : LS b = true) : LSList [a, b] = true := by
  simp only [LSList, ha, hb, Bool.and_self]

theorem prodRule_LS (l : List (E × E)) (h : ∀ p ∈ l, LS p.1 = true ∧ LS p.2 = true) :
    LS (prodRule l) = true := by
  induction l with
  | nil => rfl
  | cons p rest ih =>
    have hp := h p (by simp)
    have ih' := ih (fun q hq => h q (by simp [hq]))
    cases rest with
    | nil => exact hp.2
    | cons q rest' =>
      have hm : LS (mulOf ((q :: rest').map (·.1))) = true :=
        mulOf_LS _ (fun x hx => by
          obtain ⟨p, hp', rfl⟩ := List.mem_map.mp hx
          exact (h p (by simp [hp'])).1)
      exact LS_pair (LS_pair hp.1 ih') (LS_pair hp.2 hm)

theorem hasT_list_false (as : List E) (hf : hasTList as = false) : ∀ a ∈ as, hasT a = false := by
  simp only [hasTList_iff, List.any_eq_false] at hf
  intro a ha; simpa using hf a ha

theorem denSum_map_D (S : DRing K) (c : Coord) (f : E → E) (as : List E) (i j : Nat)
    (h : ∀ a ∈ as, den S (f a) i j = S.D c (den S a i j)) :
    denSum S (as.map f) i j = S.D c (denSum S as i j) := by
  induction as with
  | nil => exact (S.D_zero c).symm
  | cons a as ih =>
    simp only [List.map, denSum, S.D_add]
    rw [h a (by simp), ih (fun x hx => h x (by simp [hx]))]

theorem sdiff_LS (S : DRing K) (c : Coord) (e : E) (hs : LS e = true) (hf : hasT e = false) :
    LS (PD.sdiff c e) = true ∧ ∀ i j, den S (PD.sdiff c e) i j = S.D c (den S e i j) := by
  induction e using E.induction with
  | num p q => exact ⟨rfl, fun i j => by simp [PD.sdiff, den_zero, den, S.D_rat]⟩
  | cst s => exact ⟨rfl, fun i j => by simp [PD.sdiff, den_zero, den, S.D_cst]⟩
  | sym s =>
    simp only [PD.sdiff, den, S.D_sym, beq_iff_eq]
    split
    · exact ⟨rfl, fun i j => den_one S i j⟩
    · exact ⟨rfl, fun i j => den_zero S i j⟩
  | add as ih =>
    have ih' := fun a ha => ih a ha (LSList_mem hs ha) (hasT_list_false as hf a ha)
    simp only [PD.sdiff, sdiffList_eq]
    refine ⟨LSList_of_mem (fun x hx => ?_), fun i j => denSum_map_D S c _ as i j (fun a ha => (ih' a ha).2 i j)⟩
    obtain ⟨a, ha, rfl⟩ := List.mem_map.mp hx
    exact (ih' a ha).1
  | mul as ih =>
    have hs' : ∀ a ∈ as, LS a = true := fun a ha => LSList_mem hs ha
    have ih' := fun a ha => ih a ha (hs' a ha) (hasT_list_false as hf a ha)
    simp only [PD.sdiff, sdiffList_eq]
    refine ⟨prodRule_LS _ (fun p hp => ?_), fun i j => ?_⟩
    · have := mem_zip_map (PD.sdiff c) as p hp
      rw [this.2]
      exact ⟨hs' _ this.1, (ih' p.1 this.1).1⟩
    · simp only [den]
      rw [prodRule_sound S c i j, zip_map_fst _ _ (by simp)]
      intro p hp
      have := mem_zip_map (PD.sdiff c) as p hp
      rw [this.2]
      exact (ih' p.1 this.1).2 i j
  | idx b i _ => obtain ⟨n, k, rfl⟩ := LS_idx hs; exact nomatch hf
  | sf _ _ | vf _ _ | pd _ _ _ => exact nomatch hf
  | _ => exact nomatch hs

/-! ### the coordinate operators on lowered scalar forms: closure, exactness, totality -/

/-- `reorderL` only strips derivative nodes and puts derivative nodes back: it returns, within any
    class of forms that a `pd` node neither enters nor leaves -/
theorem reorderL_closed {P : E → Prop} (hpd : ∀ c a, P (pd c a) ↔ P a) (total : Prop) (c : Coord)
    (e : E) (h : P e) : Res total P (reorderL c e) := by
  have hstrip : ∀ e, P e → P (stripL e) := fun e => by
    induction e using E.induction with
    | pd c a ih =>
      intro h
      simp only [stripL]
      split
      · exact ih ((hpd c a).mp h)
      · exact h
    | _ => exact id
  have hiter : ∀ c n a, P a → P (iter n (pd c) a) := fun c n a ha => by
    induction n with
    | zero => exact ha
    | succ n ih => exact (hpd c _).mpr ih
  have hr : ∀ n1 n2 n3, P (rebuildL n1 n2 n3 (stripL e)) := fun n1 n2 n3 =>
    hiter _ _ _ (hiter _ _ _ (hiter _ _ _ (hstrip e h)))
  unfold reorderL
  split
  · exact Res.ok (hr _ _ _)
  · exact Res.ok ((hpd c _).mpr (hr _ _ _))

theorem dEvalList_LS (S : DRing K) (d : Nat) (c : Coord) (as : List E)
    (ih : ∀ a ∈ as, Res True (fun r => LS r = true ∧ ∀ i j, den S r i j = S.D c (den S a i j))
      (dEval d c a)) :
    Res True (fun rs => LSList rs = true ∧ ∀ i j, denSum S rs i j = S.D c (denSum S as i j))
      (dEvalList d c as) := by
  induction as with
  | nil => exact Res.ok ⟨rfl, fun i j => (S.D_zero c).symm⟩
  | cons a as iha =>
    simp only [dEvalList]
    exact (ih a (by simp)).bind fun r hr =>
      (iha fun x hx => ih x (by simp [hx])).bind fun rs hrs =>
        Res.ok ⟨by simp only [LSList, hr.1, hrs.1, Bool.and_self],
          fun i j => by simp only [denSum, S.D_add, hr.2, hrs.2]⟩

theorem noT_LS (S : DRing K) (c : Coord) (e : E) (hs : LS e = true) (hf : hasT e = false) :
    LS (if isNumber e then zero else PD.sdiff c e) = true ∧
    ∀ i j, den S (if isNumber e then zero else PD.sdiff c e) i j = S.D c (den S e i j) := by
  split
  · rename_i hn
    exact ⟨rfl, fun i j => (den_zero S i j).trans (D_isNumber S c e hn (LS_NonDeg S e hs) i j).symm⟩
  · exact sdiff_LS S c e hs hf

theorem dProd_LS (S : DRing K) (c : Coord) (l : List (E × Except Err E))
    (hl : ∀ p ∈ l, LS p.1 = true ∧
      Res True (fun r => LS r = true ∧ ∀ i j, den S r i j = S.D c (den S p.1 i j)) p.2) :
    Res True (fun v => LS v = true ∧ ∀ i j, den S v i j = S.D c (denProd S (l.map (·.1)) i j))
      (dProd c l) := by
  induction l with
  | nil => exact Res.ok ⟨rfl, fun i j => by simp [den_zero, denProd, S.D_one]⟩
  | cons p rest ih =>
    obtain ⟨a, da⟩ := p
    have hp := hl (a, da) (by simp)
    cases rest with
    | nil => exact hp.2.mono fun r hr => ⟨hr.1, fun i j => by simpa [denProd] using hr.2 i j⟩
    | cons q rest' =>
      have hrest : ∀ p ∈ q :: rest', LS p.1 = true ∧
          Res True (fun r => LS r = true ∧ ∀ i j, den S r i j = S.D c (den S p.1 i j)) p.2 :=
        fun p hp' => hl p (by simp [hp'])
      have hfst : ∀ x ∈ (q :: rest').map (·.1), LS x = true := fun x hx => by
        obtain ⟨p, hp', rfl⟩ := List.mem_map.mp hx
        exact (hrest p hp').1
      have hfb : Res True (fun fb => LS fb = true ∧
            ∀ i j, den S fb i j = S.D c (denProd S ((q :: rest').map (·.1)) i j))
          (match (q :: rest') with
            | [(_, dv)] => dv
            | _ => if !hasTList ((q :: rest').map (·.1)) then
                      Except.ok (if allNumber ((q :: rest').map (·.1)) then zero
                                 else PD.sdiff c (mulOf ((q :: rest').map (·.1))))
                    else dProd c (q :: rest')) := by
        cases rest' with
        | nil => exact (hrest q (by simp)).2.mono fun r hr => ⟨hr.1, fun i j => by simpa [denProd] using hr.2 i j⟩
        | cons q2 rest'' =>
          simp only
          split
          · rename_i hnf
            have hT : hasTList ((q :: q2 :: rest'').map (·.1)) = false := by simpa using hnf
            exact Res.ok (noT_LS S c (mul ((q :: q2 :: rest'').map Prod.fst)) (LSList_of_mem hfst) hT)
          · exact ih hrest
      simp only [dProd]
      exact hp.2.bind fun fa h1 => hfb.bind fun fb h2 =>
        Res.ok ⟨LS_pair (LS_pair hp.1 h2.1) (LS_pair h1.1 (mulOf_LS _ hfst)), fun i j => by
          have e1 : den S (add [mul [a, fb], mul [fa, mulOf ((q :: rest').map (·.1))]]) i j
              = den S a i j * den S fb i j + den S fa i j * denProd S ((q :: rest').map (·.1)) i j := by
            simp only [den, denSum, denProd, den_mulOf]; ring
          rw [e1, h1.2, h2.2]
          exact (S.D_mul c _ _).symm⟩

theorem dEval_LS (S : DRing K) (d : Nat) (c : Coord) (e : E) (hs : LS e = true) :
    Res True (fun r => LS r = true ∧ ∀ i j, den S r i j = S.D c (den S e i j)) (dEval d c e) := by
  induction e using E.induction with
  | num p q => exact Res.ok ⟨rfl, fun i j => by simp [den_zero, den, S.D_rat]⟩
  | cst s => exact Res.ok ⟨rfl, fun i j => by simp [den_zero, den, S.D_cst]⟩
  | sym s => exact Res.ok (sdiff_LS S c (sym s) rfl rfl)
  | sf s k => exact Res.ok ⟨rfl, fun _ _ => rfl⟩
  | idx b k _ => exact Res.ok ⟨hs, fun _ _ => rfl⟩
  | pd c' a _ =>
    simp only [dEval]
    split
    · have := reorderL_closed (P := fun r => LS r = true) (fun _ _ => Iff.rfl) True c (pd c' a) hs
      exact ⟨this.1, fun r hr => ⟨this.2 r hr, reorderL_sound S c (pd c' a) r hr⟩⟩
    · exact Res.ok ⟨hs, fun _ _ => rfl⟩
  | add as ih =>
    simp only [dEval]
    split
    · rename_i hnf
      have hT : hasTList as = false := by simpa using hnf
      exact Res.ok (noT_LS S c (add as) hs hT)
    · exact (dEvalList_LS S d c as fun a ha => ih a ha (LSList_mem hs ha)).bind fun rs hrs =>
        Res.ok hrs
  | mul as ih =>
    have hs' : ∀ a ∈ as, LS a = true := fun a ha => LSList_mem hs ha
    simp only [dEval]
    split
    · rename_i hnf
      have hT : hasTList as = false := by simpa using hnf
      exact Res.ok (noT_LS S c (mul as) hs hT)
    · rw [dEvalListE_eq]
      refine (dProd_LS S c _ fun p hp => ?_).bind fun v hv => Res.ok
        ⟨LS_pair (mulOf_LS _ fun a ha => hs' a (List.mem_filter.mp ha).1) hv.1, fun i j => ?_⟩
      · have := mem_zip_map (dEval d c) as p (List.mem_filter.mp hp).1
        rw [this.2]
        exact ⟨hs' _ this.1, ih p.1 this.1 (hs' _ this.1)⟩
      · simp only [den, denProd, den_mulOf, mul_one]
        rw [hv.2, filter_zip_map_fst (fun a => !isCoef a) (dEval d c) as, denProd_filter S isCoef as i j,
          S.D_mul, D_denProd_coefs S c _ (fun a ha => (List.mem_filter.mp ha).2) i j]
        ring
  | _ => exact nomatch hs

/-! ### instantiated leaf formulas -/

/-- the ring in which the placeholder atoms denote the (scalar) values bound by `σ`; everything
    else — in particular the derivations — is that of `S` -/
def bindS (S : DRing K) (σ : List (String × E)) : DRing K :=
  { S with sf := fun n => match findBind σ n with
                          | some e => den S e 0 0
                          | none => S.sf n }

@[simp] theorem bindS_D (S : DRing K) (σ : List (String × E)) : (bindS S σ).D = S.D := rfl

theorem bindS_sf (S : DRing K) (σ : List (String × E)) (n : String) (e : E)
    (h : findBind σ n = some e) : (bindS S σ).sf n = den S e 0 0 := by
  simp [bindS, h]

mutual
/-- scalar component formulas: placeholder atoms, numbers, derivative nodes, sums, products -/
def FS : E → Bool
  | num _ _ => true
  | sf _ _ => true
  | pd _ a => FS a
  | add as => FSList as
  | mul as => FSList as
  | _ => false
def FSList : List E → Bool
  | [] => true
  | a :: as => FS a && FSList as
end

theorem FSList_iff (as : List E) : FSList as = as.all FS := by
  induction as with
  | nil => simp [FSList]
  | cons a as ih => simp [FSList, ih]

theorem FSList_mem {as : List E} (h : FSList as = true) {a : E} (ha : a ∈ as) : FS a = true := by
  rw [FSList_iff, List.all_eq_true] at h
  exact h a ha

theorem findBind_mem (σ : List (String × E)) (n : String) (e : E) (h : findBind σ n = some e) :
    ∃ p ∈ σ, p.2 = e := by
  unfold findBind at h
  cases hf : σ.find? (fun p => p.1 == n) with
  | none => rw [hf] at h; cases h
  | some p =>
    rw [hf] at h
    exact ⟨p, List.mem_of_find?_eq_some hf, Option.some.inj h⟩

/-- the differential ring with one element (only used to read off statements that do not mention
    the ring, such as the shape of a lowered value) -/
def trivialRing : DRing PUnit where
  D := fun _ _ => PUnit.unit
  D_add := fun _ _ _ => rfl
  D_mul := fun _ _ _ => rfl
  D_comm := fun _ _ _ => rfl
  D_rat := fun _ _ => rfl
  sf := fun _ => PUnit.unit
  vf := fun _ _ => PUnit.unit
  cst := fun _ => PUnit.unit
  D_cst := fun _ _ => rfl
  sym := fun _ => PUnit.unit
  D_sym := fun _ _ => Subsingleton.elim _ _
  fn := fun _ _ => PUnit.unit
  fn' := fun _ _ => PUnit.unit
  D_fn := fun _ _ _ => rfl
  inv := fun _ => PUnit.unit
  rpow := fun _ _ => PUnit.unit
  D_rpow := fun _ _ _ => rfl
  rpow_pred := fun _ _ _ => rfl

/-! ### application of a leaf class -/

/-- lowered values: a scalar form or a matrix of scalar forms -/
def VF : E → Bool
  | mat _ _ es => LSList es
  | t => LS t

/-- the binding the model builds from the argument list -/
def sigmaOf (d : Nat) (args : List E) : List (String × E) :=
  args.zipIdx.flatMap (fun (a, k) => bindArg d k a)

theorem applyLeaf_formula (d : Nat) (cname : String) (args : List E) (cs : List Char) (F : E)
    (hk : classKnown cname = true) (hsig : args.mapM (sigOf d) = some cs)
    (hl : lookup cname (String.ofList cs) = some (.formula F)) :
    applyLeaf d cname args = inst d (sigmaOf d args) F := by
  simp [applyLeaf, hk, hsig, hl, sigmaOf]

end Lower
end Sympde

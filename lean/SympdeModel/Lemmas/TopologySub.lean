/-
  The two loops of `Domain.get_subdomain` on a joined domain (`WF`).  The inner loop is a fold of `stepInner`; its
  invariant `InnerInv` describes the state by the dictionary the loop started with.  The outer loop keeps `Inv`: the
  dictionary holds the interfaces that touch no finished patch, and `prev` is the sub-domain of the finished patches.
-/
import SympdeModel.Lemmas.Topology
namespace Sympde.Topo

/-! ### dictionaries -/

theorem popPair_snd (d : List ((String × String) × Iface)) (k : String × String) :
    (popPair d k).2 = d.filter (fun e => !(e.1 == k)) := by
  unfold popPair
  split
  · rename_i h
    rw [List.find?_eq_none] at h
    exact (List.filter_eq_self.mpr fun e he => by simpa using h e he).symm
  · rfl

theorem popPair_fst (d : List ((String × String) × Iface)) (k : String × String)
    (hk : (d.map (·.1)).Nodup) (i : Iface) : (popPair d k).1 = some i ↔ (k, i) ∈ d := by
  unfold popPair
  split
  · rename_i h
    rw [List.find?_eq_none] at h
    exact ⟨fun h' => (by cases h'), fun hm => absurd (beq_self_eq_true k) (h (k, i) hm)⟩
  · rename_i e he
    have hmem := List.mem_of_find?_eq_some he
    have hkey : e.1 = k := by simpa using List.find?_some he
    refine ⟨fun h => ?_, fun hm => ?_⟩
    · cases h; exact hkey ▸ hmem
    · rw [List.inj_on_of_nodup_map hk hmem hm hkey]

theorem filter_keys_nodup {d : List ((String × String) × Iface)} (p : (String × String) × Iface → Bool)
    (h : (d.map (·.1)).Nodup) : ((d.filter p).map (·.1)).Nodup :=
  List.Nodup.sublist (List.Sublist.map _ List.filter_sublist) h

/-! ### the inner loop of `get_subdomain` -/

/-- the body of the loop `for other_name in self.interior_names` -/
def stepInner (name : String) (names : List String) (other : String) (st : SubState) : SubState :=
  if other = name then st else
    let m := popPair st.idict (name, other)
    let p := popPair m.2 (other, name)
    if other ∈ names then ⟨p.2, st.bnds, st.ifs ++ p.1.toList ++ m.1.toList⟩
    else ⟨p.2, st.bnds ++ (m.1.map (·.minus)).toList ++ (p.1.map (·.plus)).toList, st.ifs⟩

theorem subInner_cons (name : String) (names : List String) (other : String) (rest : List String) (st : SubState) :
    subInner name names (other :: rest) st = subInner name names rest (stepInner name names other st) := by
  rw [subInner, stepInner]
  by_cases h : other = name
  · simp [h]
  · by_cases hn : other ∈ names <;>
      rcases hm : (popPair st.idict (name, other)).1 with _ | i <;>
      rcases hp : (popPair (popPair st.idict (name, other)).2 (other, name)).1 with _ | j <;>
      simp only [bne_iff_ne, ne_eq, h, not_false_eq_true, ↓reduceIte, List.contains_eq_mem, hn, decide_true,
        decide_false, Bool.not_true, Bool.not_false, Bool.false_eq_true, hm, hp, Option.map_none, Option.map_some,
        Option.toList_none, Option.toList_some, List.append_nil, List.append_assoc, List.cons_append, List.nil_append]

theorem stepInner_spec (name : String) (names : List String) (other : String) (st : SubState)
    (hk : (st.idict.map (·.1)).Nodup) (hne : other ≠ name) :
    (stepInner name names other st).idict =
      st.idict.filter (fun e => !(e.1 == (name, other)) && !(e.1 == (other, name))) ∧
    (∀ f, f ∈ (stepInner name names other st).bnds ↔ f ∈ st.bnds ∨ (other ∉ names ∧ ∃ i,
        (((name, other), i) ∈ st.idict ∧ i.minus = f) ∨ (((other, name), i) ∈ st.idict ∧ i.plus = f))) ∧
    (∀ i, i ∈ (stepInner name names other st).ifs ↔ i ∈ st.ifs ∨ (other ∈ names ∧
        (((other, name), i) ∈ st.idict ∨ ((name, other), i) ∈ st.idict))) := by
  have hm := popPair_fst st.idict (name, other) hk
  -- the second key is looked up after the first was popped; the two keys differ
  have hp : ∀ i, (popPair (popPair st.idict (name, other)).2 (other, name)).1 = some i ↔
      ((other, name), i) ∈ st.idict := by
    intro i
    rw [popPair_fst _ _ (by rw [popPair_snd]; exact filter_keys_nodup _ hk), popPair_snd, List.mem_filter]
    simp only [Bool.not_eq_eq_eq_not, Bool.not_true, beq_eq_false_iff_ne, ne_eq, Prod.mk.injEq, hne, false_and,
      not_false_eq_true, and_true]
  have hd : (popPair (popPair st.idict (name, other)).2 (other, name)).2 =
      st.idict.filter (fun e => !(e.1 == (name, other)) && !(e.1 == (other, name))) := by
    rw [popPair_snd, popPair_snd, List.filter_filter]; simp only [Bool.and_comm]
  rw [stepInner, if_neg hne]
  by_cases hn : other ∈ names <;>
    simp only [hn, ↓reduceIte, hd, List.append_assoc, List.mem_append, Option.mem_toList, Option.map_eq_some_iff,
      hm, hp, not_true_eq_false, not_false_eq_true, exists_or, true_and, implies_true, false_and, or_false,
      and_self]

/-- the state of the inner loop after the names `pre`, in terms of the dictionary `D`, the faces `b0` and the
    interfaces `i0` it started with: the entries joining `name` with a patch of `pre` have left the dictionary;
    the face on `name` went to the boundary faces when the other patch is not selected, the entry to the
    interfaces when it is -/
structure InnerInv (name : String) (names : List String) (D : List ((String × String) × Iface)) (b0 : List Face)
    (i0 : List Iface) (pre : List String) (st : SubState) : Prop where
  idict : st.idict = D.filter (fun e => !(pre.any (fun o => o != name && (e.1 == (name, o) || e.1 == (o, name)))))
  bnds : ∀ f, f ∈ st.bnds ↔ f ∈ b0 ∨ ∃ i,
        ((∃ o ∈ pre, o ≠ name ∧ o ∉ names ∧ ((name, o), i) ∈ D) ∧ i.minus = f) ∨
        ((∃ o ∈ pre, o ≠ name ∧ o ∉ names ∧ ((o, name), i) ∈ D) ∧ i.plus = f)
  ifs : ∀ i, i ∈ st.ifs ↔ i ∈ i0 ∨ ∃ o ∈ pre, o ≠ name ∧ o ∈ names ∧ (((o, name), i) ∈ D ∨ ((name, o), i) ∈ D)

theorem InnerInv.step {name : String} {names : List String} {D : List ((String × String) × Iface)} {b0 : List Face}
    {i0 : List Iface} {pre : List String} {st : SubState} (h : InnerInv name names D b0 i0 pre st)
    (hk : (D.map (·.1)).Nodup) (o : String) (ho : o ∉ pre) :
    InnerInv name names D b0 i0 (pre ++ [o]) (stepInner name names o st) := by
  by_cases hne : o = name
  · rw [show stepInner name names o st = st by simp [stepInner, hne]]
    refine ⟨?_, fun f => ?_, fun i => ?_⟩
    · simp only [h.idict, hne, List.any_append, List.any_cons, bne_self_eq_false, Bool.or_self, Bool.false_and,
        List.any_nil, Bool.or_false]
    · simp only [h.bnds f, ne_eq, hne, List.mem_append, List.mem_cons, List.not_mem_nil, or_false,
        exists_or_eq_imp, not_true_eq_false, false_and]
    · simp only [h.ifs i, ne_eq, hne, List.mem_append, List.mem_cons, List.not_mem_nil, or_false,
        exists_or_eq_imp, not_true_eq_false, or_self, false_and]
  · obtain ⟨s1, s2, s3⟩ := stepInner_spec name names o st (by rw [h.idict]; exact filter_keys_nodup _ hk) hne
    -- the two keys looked up have not been removed before: `o` is new and is not `name`
    have hkey : ∀ k i, (k = (name, o) ∨ k = (o, name)) → ((k, i) ∈ st.idict ↔ (k, i) ∈ D) := by
      intro k i hk'
      rw [h.idict, List.mem_filter, and_iff_left_iff_imp]
      intro _
      simp only [Bool.not_eq_true', List.any_eq_false, Bool.and_eq_true, bne_iff_ne, Bool.or_eq_true, beq_iff_eq,
        not_and]
      rintro o' ho' hne' (e | e) <;> rcases hk' with rfl | rfl <;> simp only [Prod.mk.injEq] at e
      · exact ho (e.2 ▸ ho')
      · exact hne e.1
      · exact hne e.2
      · exact ho (e.1 ▸ ho')
    refine ⟨?_, fun f => ?_, fun i => ?_⟩
    · rw [s1, h.idict, List.filter_filter]
      apply List.filter_congr; intro e _
      simp only [List.any_append, List.any_cons, bne_iff_ne.mpr hne, Bool.true_and, List.any_nil, Bool.or_false,
        Bool.not_or, Bool.and_comm]
    · rw [s2 f, h.bnds f]
      simp only [hkey _ _ (Or.inl rfl), hkey _ _ (Or.inr rfl), ne_eq, exists_or, or_assoc, List.mem_append,
        List.mem_cons, List.not_mem_nil, or_false, or_and_right, ↓existsAndEq, hne, not_false_eq_true, true_and,
        and_or_left, and_assoc, exists_and_left]
      exact or_congr_right (or_congr_right or_left_comm)
    · rw [s3 i, h.ifs i]
      simp only [hkey _ _ (Or.inl rfl), hkey _ _ (Or.inr rfl), ne_eq, exists_or, or_assoc, List.mem_append,
        List.mem_cons, List.not_mem_nil, or_false, or_and_right, ↓existsAndEq, hne, not_false_eq_true, true_and]

theorem subInner_spec (name : String) (names : List String) {D : List ((String × String) × Iface)} {b0 : List Face}
    {i0 : List Iface} (hk : (D.map (·.1)).Nodup) :
    ∀ (others pre : List String) (st : SubState), (pre ++ others).Nodup → InnerInv name names D b0 i0 pre st →
      InnerInv name names D b0 i0 (pre ++ others) (subInner name names others st) := by
  intro others
  induction others with
  | nil => intro pre st _ h; simpa [subInner] using h
  | cons o rest ih =>
    intro pre st hnd h
    have := ih (pre ++ [o]) _ (by simpa using hnd) (h.step hk o fun ho =>
      (List.nodup_append.mp hnd).2.2 o ho o (by simp) rfl)
    rwa [subInner_cons, List.append_cons]

/-! ### well-formed joined domains -/

def Iface.mname (i : Iface) : String := i.minus.patch.name
def Iface.pname (i : Iface) : String := i.plus.patch.name
def Iface.key (i : Iface) : String × String := (i.mname, i.pname)

/-- what `join_partition` / `join_declared` establish about a joined domain, plus "no patch is
    joined to itself" -/
structure WF (ps : List Patch) (d : Dom) : Prop where
  names : NamesOk ps
  len : 2 ≤ ps.length
  ints : d.interiors.Perm ps
  part : (d.boundary ++ ifaceSides d.ifaces).Perm (allFaces ps)
  inames : (d.ifaces.map Iface.name).Nodup
  iname : ∀ i ∈ d.ifaces, i.name = ifaceName i.mname i.pname
  noself : ∀ i ∈ d.ifaces, i.mname ≠ i.pname
  dims : ∀ p ∈ ps, p.dim = headDim ps

namespace WF
variable {ps : List Patch} {d : Dom} (w : WF ps d)
include w

theorem sidesNodup : (ifaceSides d.ifaces).Nodup := (partition_nodup w.names w.part).2.1

theorem bndNodup : d.boundary.Nodup :=
  (partition_nodup w.names w.part).1

theorem bnd_not_side {f : Face} (h : f ∈ d.boundary) : f ∉ ifaceSides d.ifaces :=
  (partition_nodup w.names w.part).2.2 f h

theorem bnd_all {f : Face} (h : f ∈ d.boundary) : f ∈ allFaces ps := w.part.subset (List.mem_append_left _ h)
theorem side_all {f : Face} (h : f ∈ ifaceSides d.ifaces) : f ∈ allFaces ps :=
  w.part.subset (List.mem_append_right _ h)

theorem minus_all {i : Iface} (h : i ∈ d.ifaces) : i.minus ∈ allFaces ps :=
  w.side_all (minus_side h)
theorem plus_all {i : Iface} (h : i ∈ d.ifaces) : i.plus ∈ allFaces ps :=
  w.side_all (plus_side h)

theorem iface_inj {i j : Iface} (hi : i ∈ d.ifaces) (hj : j ∈ d.ifaces) (h : i.name = j.name) : i = j :=
  List.inj_on_of_nodup_map w.inames hi hj h

theorem key_inj {i j : Iface} (hi : i ∈ d.ifaces) (hj : j ∈ d.ifaces) (h : i.key = j.key) : i = j := by
  apply w.iface_inj hi hj
  rw [w.iname i hi, w.iname j hj]
  simp only [Iface.key, Prod.mk.injEq] at h
  rw [h.1, h.2]

theorem side_unique {i j : Iface} (hi : i ∈ d.ifaces) (hj : j ∈ d.ifaces) :
    (i.minus = j.minus → i = j) ∧ (i.plus = j.plus → i = j) ∧ i.minus ≠ j.plus := by
  have h := List.nodup_append.mp ((sides_perm d.ifaces).nodup_iff.mpr w.sidesNodup)
  exact ⟨List.inj_on_of_nodup_map h.1 hi hj, List.inj_on_of_nodup_map h.2.1 hi hj,
    h.2.2 _ (List.mem_map_of_mem hi) _ (List.mem_map_of_mem hj)⟩

theorem mname_mem {i : Iface} (h : i ∈ d.ifaces) : i.mname ∈ d.interiors.map Patch.name :=
  List.mem_map_of_mem (w.ints.mem_iff.mpr ((mem_allFaces ps _).mp (w.minus_all h)).1)
theorem pname_mem {i : Iface} (h : i ∈ d.ifaces) : i.pname ∈ d.interiors.map Patch.name :=
  List.mem_map_of_mem (w.ints.mem_iff.mpr ((mem_allFaces ps _).mp (w.plus_all h)).1)

end WF

/-! ### the dictionary of interfaces keyed by (minus patch, plus patch) -/

def idict0 (d : Dom) : List ((String × String) × Iface) :=
  (sortBy Iface.name d.ifaces).foldl
    (fun acc i => dictSet (· == ·) acc (i.minus.patch.name, i.plus.patch.name) i) []

namespace WF
variable {ps : List Patch} {d : Dom} (w : WF ps d)
include w

theorem sorted_keys_nodup : ((sortBy Iface.name d.ifaces).map Iface.key).Nodup :=
  List.Nodup.map_on (fun _ hx _ hy e => w.key_inj ((sortBy_perm _ _).subset hx) ((sortBy_perm _ _).subset hy) e)
    ((sortBy_perm _ _).nodup_iff.mpr (List.Nodup.of_map _ w.inames))

theorem idict0_eq : idict0 d = (sortBy Iface.name d.ifaces).map (fun i => (i.key, i)) := by
  exact foldl_dictSet_fresh (· == ·) Iface.key id (sortBy Iface.name d.ifaces) []
    (by simpa using w.sorted_keys_nodup.imp fun hab => by simpa using hab)

theorem mem_idict0 (k : String × String) (i : Iface) : (k, i) ∈ idict0 d ↔ i ∈ d.ifaces ∧ k = i.key := by
  rw [w.idict0_eq, List.mem_map]
  constructor
  · rintro ⟨j, hj, e⟩
    cases e
    exact ⟨(sortBy_perm _ _).subset hj, rfl⟩
  · rintro ⟨hi, rfl⟩
    exact ⟨i, (sortBy_perm _ _).mem_iff.mpr hi, rfl⟩

theorem idict0_keys : ((idict0 d).map (·.1)).Nodup := by
  rw [w.idict0_eq, List.map_map]
  exact w.sorted_keys_nodup

end WF

/-! ### the outer loop -/

/-- the faces that form the boundary of the patches `done` inside the selection `S` -/
def Bnd (ps : List Patch) (d : Dom) (S done : List String) (f : Face) : Prop :=
  f ∈ allFaces ps ∧ f.patch.name ∈ done ∧
    (f ∈ d.boundary ∨ ∃ i ∈ d.ifaces, (f = i.minus ∧ i.pname ∉ S) ∨ (f = i.plus ∧ i.mname ∉ S))

/-- `A|B|C`: the name given to the joined sub-domain -/
def nameOf : List String → String
  | [] => ""
  | n :: ns => ns.foldl ifaceName n

theorem nameOf_snoc (done : List String) (name : String) (h : done ≠ []) :
    nameOf (done ++ [name]) = ifaceName (nameOf done) name := by
  cases done with
  | nil => exact absurd rfl h
  | cons n ns => simp [nameOf, List.foldl_append]

/-- `prev` is the sub-domain made of the patches `done` -/
def PrevOk (ps : List Patch) (d : Dom) (S done : List String) : Option Dom → Prop
  | none => done = []
  | some pd => done ≠ [] ∧ pd.ifaces = [] ∧ (∀ p, p ∈ pd.interiors ↔ p ∈ ps ∧ p.name ∈ done) ∧
      (∀ f, f ∈ pd.boundary ↔ Bnd ps d S done f) ∧ pd.name = nameOf done ∧
      pd.interiors.Nodup ∧ pd.boundary.Nodup

/-- the state of the outer loop after the names `done`: the dictionary holds the interfaces that touch no
    finished patch, `ifs` the selected interfaces that touch one -/
structure Inv (ps : List Patch) (d : Dom) (S done : List String) (st : SubState) (prev : Option Dom) : Prop where
  keys : (st.idict.map (·.1)).Nodup
  idict : ∀ k i, (k, i) ∈ st.idict ↔ i ∈ d.ifaces ∧ k = i.key ∧ i.mname ∉ done ∧ i.pname ∉ done
  ifs : ∀ i, i ∈ st.ifs ↔ i ∈ d.ifaces ∧ i.mname ∈ S ∧ i.pname ∈ S ∧ (i.mname ∈ done ∨ i.pname ∈ done)
  prev : PrevOk ps d S done prev

theorem Bnd_snoc (ps : List Patch) (d : Dom) (S done : List String) (name : String) (f : Face) :
    Bnd ps d S (done ++ [name]) f ↔ Bnd ps d S done f ∨ Bnd ps d S [name] f := by
  simp only [Bnd, List.mem_append, List.mem_singleton]
  rw [or_and_right, and_or_left]

/-- the free faces of one patch as `get_subdomain` collects them from `boundary_dict` -/
theorem mem_bnds0 {ps : List Patch} {d : Dom} (w : WF ps d) (interior : Patch) (hi : interior ∈ ps) (f : Face) :
    f ∈ interior.faces.filterMap (fun g => (d.boundary.filter (fun b => b.patch.name == interior.name)).find?
        (fun b => b.same g)) ↔ f ∈ d.boundary ∧ f.patch.name = interior.name := by
  rw [List.mem_filterMap]
  constructor
  · rintro ⟨g, _, hfind⟩
    simpa using List.mem_filter.mp (List.mem_of_find?_eq_some hfind)
  · rintro ⟨hb, hn⟩
    have hfa := (mem_allFaces ps f).mp (w.bnd_all hb)
    refine ⟨f, (mem_faces _ _).mpr ⟨w.names.inj hfa.1 hi hn, w.names.inj hfa.1 hi hn ▸ hfa.2⟩,
      find?_unique _ _ f (List.mem_filter.mpr ⟨hb, by simpa using hn⟩) (same_refl f) ?_⟩
    intro y hy hs
    exact (same_iff_eq w.names ((mem_allFaces ps y).mp (w.bnd_all (List.mem_filter.mp hy).1)).1 hfa.1).mp hs

namespace WF
variable {ps : List Patch} {d : Dom} (w : WF ps d)
include w

/-- an interface is popped in the inner loop for `name` exactly when `name` is one of its two patches -/
theorem hit_iff {i : Iface} (hi : i ∈ d.ifaces) (name : String) :
    ((d.interiors.map Patch.name).any fun o => o != name && (i.key == (name, o) || i.key == (o, name))) = true ↔
      i.mname = name ∨ i.pname = name := by
  simp only [List.any_eq_true, Bool.and_eq_true, bne_iff_ne, Bool.or_eq_true, beq_iff_eq, Iface.key,
    Prod.mk.injEq]
  constructor
  · rintro ⟨o, _, _, h | h⟩
    · exact Or.inl h.1
    · exact Or.inr h.2
  · rintro (h | h)
    · exact ⟨i.pname, w.pname_mem hi, fun e => w.noself i hi (h.trans e.symm), Or.inl ⟨h, rfl⟩⟩
    · exact ⟨i.mname, w.mname_mem hi, fun e => w.noself i hi (e.trans h.symm), Or.inr ⟨rfl, h⟩⟩

/-- the loop variable of the inner loop for `name` eliminated: an entry keyed `(name, o)` or `(o, name)` with `o` a
    patch name other than `name` is an interface with `name` on one side, and `o` is its other side -/
theorem popped_iff {S done : List String} {st : SubState} {prev : Option Dom} (h : Inv ps d S done st prev)
    (name : String) (P : String → Prop) (i : Iface) :
    ((∃ o ∈ d.interiors.map Patch.name, o ≠ name ∧ P o ∧ ((name, o), i) ∈ st.idict) ↔
      (i ∈ d.ifaces ∧ i.mname ∉ done ∧ i.pname ∉ done) ∧ i.mname = name ∧ P i.pname) ∧
    ((∃ o ∈ d.interiors.map Patch.name, o ≠ name ∧ P o ∧ ((o, name), i) ∈ st.idict) ↔
      (i ∈ d.ifaces ∧ i.mname ∉ done ∧ i.pname ∉ done) ∧ i.pname = name ∧ P i.mname) := by
  simp only [h.idict, Iface.key, Prod.mk.injEq]
  constructor
  · constructor
    · rintro ⟨_, _, _, hP, hi, ⟨rfl, rfl⟩, hd⟩
      exact ⟨⟨hi, hd⟩, rfl, hP⟩
    · rintro ⟨⟨hi, hd⟩, rfl, hP⟩
      exact ⟨_, w.pname_mem hi, (w.noself i hi).symm, hP, hi, ⟨rfl, rfl⟩, hd⟩
  · constructor
    · rintro ⟨_, _, _, hP, hi, ⟨rfl, rfl⟩, hd⟩
      exact ⟨⟨hi, hd⟩, rfl, hP⟩
    · rintro ⟨⟨hi, hd⟩, rfl, hP⟩
      exact ⟨_, w.mname_mem hi, w.noself i hi, hP, hi, ⟨rfl, rfl⟩, hd⟩

end WF

theorem inner_step {ps : List Patch} {d : Dom} (w : WF ps d) (S done : List String) (name : String)
    (st : SubState) (prev : Option Dom) (hinv : Inv ps d S done st prev)
    (hdS : ∀ n ∈ done, n ∈ S) (hnS : name ∈ S) (hnd : name ∉ done) (bnds0 : List Face)
    (hb0 : ∀ f, f ∈ bnds0 ↔ f ∈ d.boundary ∧ f.patch.name = name) :
    (∀ f, f ∈ (subInner name S (d.interiors.map Patch.name) { st with bnds := bnds0 }).bnds ↔ Bnd ps d S [name] f) ∧
    ∀ pd, PrevOk ps d S (done ++ [name]) pd → Inv ps d S (done ++ [name])
      { subInner name S (d.interiors.map Patch.name) { st with bnds := bnds0 } with bnds := [] } pd := by
  have r := subInner_spec name S hinv.keys (d.interiors.map Patch.name) [] { st with bnds := bnds0 }
    (by simpa using (w.ints.map _).nodup_iff.mpr w.names) (b0 := bnds0) (i0 := st.ifs) ⟨by simp, by simp, by simp⟩
  rw [List.nil_append] at r
  refine ⟨?_, fun pd hpd => ⟨?_, ?_, ?_, hpd⟩⟩
  rotate_left
  · show ((subInner _ _ _ _).idict.map (·.1)).Nodup
    rw [r.idict]; exact filter_keys_nodup _ hinv.keys
  · intro k i
    show (k, i) ∈ (subInner _ _ _ _).idict ↔ _
    simp only [r.idict, List.mem_filter, hinv.idict, List.mem_append, List.mem_singleton, not_or, Bool.not_eq_true',
      ← Bool.not_eq_true]
    constructor
    · rintro ⟨⟨hi, rfl, h1, h2⟩, h⟩
      rw [w.hit_iff hi, not_or] at h
      exact ⟨hi, rfl, ⟨h1, h.1⟩, h2, h.2⟩
    · rintro ⟨hi, rfl, h1, h2⟩
      rw [w.hit_iff hi, not_or]
      exact ⟨⟨hi, rfl, h1.1, h2.1⟩, h1.2, h2.2⟩
  · intro i
    show i ∈ (subInner _ _ _ _).ifs ↔ _
    rw [r.ifs i, hinv.ifs i]
    simp only [and_or_left, exists_or, w.popped_iff hinv name, List.mem_append, List.mem_singleton]
    -- a new entry has `name` on one side, which is selected (`hnS`), and touched no finished patch before
    grind
  · intro f
    rw [r.bnds f, hb0 f]
    simp only [w.popped_iff hinv name, Bnd, List.mem_singleton]
    constructor
    · rintro (⟨a, b⟩ | ⟨i, ⟨⟨⟨a, _⟩, e, hS⟩, rfl⟩ | ⟨⟨⟨a, _⟩, e, hS⟩, rfl⟩⟩)
      · exact ⟨w.bnd_all a, b, Or.inl a⟩
      · exact ⟨w.minus_all a, e, Or.inr ⟨i, a, Or.inl ⟨rfl, hS⟩⟩⟩
      · exact ⟨w.plus_all a, e, Or.inr ⟨i, a, Or.inr ⟨rfl, hS⟩⟩⟩
    · rintro ⟨_, rfl, hb | ⟨i, a, ⟨rfl, hp⟩ | ⟨rfl, hm⟩⟩⟩
      · exact Or.inl ⟨hb, rfl⟩
      · exact Or.inr ⟨i, Or.inl ⟨⟨⟨a, hnd, fun h => hp (hdS _ h)⟩, rfl, hp⟩, rfl⟩⟩
      · exact Or.inr ⟨i, Or.inr ⟨⟨⟨a, fun h => hm (hdS _ h), hnd⟩, rfl, hm⟩, rfl⟩⟩

theorem mem_unionPatches {ps : List Patch} (hn : NamesOk ps) (l : List Patch) (hl : ∀ p ∈ l, p ∈ ps) (x : Patch) :
    x ∈ unionPatches l ↔ x ∈ l :=
  mem_unionBy _ _ l (fun a ha b hb h => hn.inj (hl a ha) (hl b hb) (by simpa [Patch.same] using h)) x

theorem mem_unionFaces {ps : List Patch} (hn : NamesOk ps) (l : List Face) (hl : ∀ f ∈ l, f ∈ allFaces ps) (x : Face) :
    x ∈ unionFaces l ↔ x ∈ l :=
  mem_unionBy _ _ l (fun a ha b hb h =>
    (same_iff_eq hn ((mem_allFaces ps a).mp (hl a ha)).1 ((mem_allFaces ps b).mp (hl b hb)).1).mp h) x

theorem externalFaces_nil (l : List Face) : externalFaces l [] = unionFaces l := by
  rw [externalFaces, List.filter_eq_self.mpr fun f _ => by simp [memFace]]

theorem patchDomain_fields (q : Patch) (b : List Face) :
    (patchDomain q b).name = q.name ∧ (patchDomain q b).interiors = [q] ∧
      (patchDomain q b).boundary = unionFaces b ∧ (patchDomain q b).ifaces = [] := by
  unfold patchDomain Patch.toDom Patch.toCore
  cases q.mapping <;> exact ⟨rfl, rfl, rfl, rfl⟩

theorem joinDoms_ok {ps : List Patch} {d : Dom} (w : WF ps d) (pd nd : Dom) (nm : String) (interior : Patch)
    (hpi : ∀ p ∈ pd.interiors, p ∈ ps) (hpne : pd.interiors ≠ [])
    (hni : nd.interiors = [interior]) (hi : interior ∈ ps) (hnot : interior ∉ pd.interiors)
    (hpb : ∀ f ∈ pd.boundary, f ∈ allFaces ps) (hnb : ∀ f ∈ nd.boundary, f ∈ allFaces ps) :
    ∃ j, joinDoms pd nd nm = .ok j ∧ j.name = nm ∧ j.ifaces = [] ∧
      (∀ p, p ∈ j.interiors ↔ p ∈ pd.interiors ∨ p = interior) ∧
      (∀ f, f ∈ j.boundary ↔ f ∈ pd.boundary ∨ f ∈ nd.boundary) ∧
      j.interiors.Nodup ∧ j.boundary.Nodup := by
  obtain ⟨p0, rest, hp0⟩ := List.exists_cons_of_ne_nil hpne
  have h0 : p0 ∈ pd.interiors := by rw [hp0]; simp
  have hmemI : ∀ p, p ∈ unionPatches (pd.interiors ++ nd.interiors) ↔ p ∈ pd.interiors ∨ p = interior := by
    intro p
    rw [mem_unionPatches w.names _ (by
      intro q hq; rcases List.mem_append.mp hq with h | h
      · exact hpi q h
      · rw [hni] at h; simp at h; rw [h]; exact hi)]
    simp [hni]
  obtain ⟨j, hj⟩ : ∃ j, finishJoin nm (unionPatches (pd.interiors ++ nd.interiors))
      (externalFaces (pd.boundary ++ nd.boundary) []) [] = .ok j := by
    apply finishJoin_ok
    · intro x hx
      have m1 := (hmemI p0).mpr (Or.inl h0)
      have m2 := (hmemI interior).mpr (Or.inr rfl)
      rw [hx, List.mem_singleton] at m1 m2
      exact hnot (m2 ▸ m1 ▸ h0)
    · intro _ i hi'; cases hi'
  obtain ⟨h1, h2, h3, h4⟩ := finishJoin_core hj
  refine ⟨j, ?_, h1, h4, fun p => h2 ▸ hmemI p, fun f => ?_,
    h2 ▸ unionBy_nodup _ _ (fun a => by simp [Patch.same]) _, h3 ▸ unionBy_nodup _ _ same_refl _⟩
  · unfold joinDoms
    simp only []
    rw [if_neg]
    · exact hj
    · rw [hp0, hni]; simp [w.dims p0 (hpi p0 h0), w.dims interior hi]
  · rw [h3, externalFaces_nil, mem_unionFaces w.names _ (by
      intro g hg; rcases List.mem_append.mp hg with h | h
      · exact hpb g h
      · exact hnb g h)]
    simp

theorem subOuter_spec {ps : List Patch} {d : Dom} (w : WF ps d) (S : List String) (hS : S.Nodup)
    (hSN : ∀ s ∈ S, s ∈ d.interiors.map Patch.name) :
    ∀ (rest done : List String) (st : SubState) (prev : Option Dom), done ++ rest = S →
      Inv ps d S done st prev →
      ∃ prev' st', subOuter d S rest st prev = .ok (prev', st'.ifs) ∧ Inv ps d S S st' prev' := by
  intro rest
  induction rest with
  | nil =>
    intro done st prev hd hinv
    rw [List.append_nil] at hd
    subst hd
    exact ⟨prev, st, rfl, hinv⟩
  | cons name rest ih =>
    intro done st prev hd hinv
    have hnS : name ∈ S := by rw [← hd]; simp
    have hdS : ∀ n ∈ done, n ∈ S := fun n hn => by rw [← hd]; exact List.mem_append_left _ hn
    have hnd : name ∉ done := fun h => (List.nodup_append.mp (hd ▸ hS)).2.2 name h name (by simp) rfl
    -- the interior called `name`
    obtain ⟨interior, hint, hin⟩ := List.mem_map.mp (hSN name hnS)
    obtain ⟨q, hq⟩ : ∃ q, d.interiors.find? (fun p => p.name == name) = some q := by
      rw [← Option.isSome_iff_exists, List.find?_isSome]
      exact ⟨interior, hint, by simpa using hin⟩
    have hqn : q.name = name := by simpa using List.find?_some hq
    have hqps : q ∈ ps := w.ints.subset (List.mem_of_find?_eq_some hq)
    have hq_iff : ∀ p, p = q ↔ p ∈ ps ∧ p.name = name := fun p =>
      ⟨fun e => e ▸ ⟨hqps, hqn⟩, fun ⟨h1, h2⟩ => w.names.inj h1 hqps (h2.trans hqn.symm)⟩
    have hb0 := mem_bnds0 w q hqps
    rw [hqn] at hb0
    -- the single-patch domain of `q`, and what the inner loop leaves
    obtain ⟨st1, hst1⟩ : ∃ st1, st1 = subInner name S (d.interiors.map Patch.name) { st with
      bnds := q.faces.filterMap (fun g => (d.boundary.filter (fun b => b.patch.name == name)).find? (fun b => b.same g)) } :=
      ⟨_, rfl⟩
    obtain ⟨nN, nI, nB, nF⟩ := patchDomain_fields q st1.bnds
    obtain ⟨i3, hstep⟩ := inner_step w S done name st prev hinv hdS hnS hnd _ hb0
    rw [← hst1] at i3 hstep
    have hnb : ∀ f, f ∈ (patchDomain q st1.bnds).boundary ↔ Bnd ps d S [name] f := fun f => by
      rw [nB, mem_unionFaces w.names _ (fun g hg => ((i3 g).mp hg).1), i3 f]
    simp only [subOuter, hq, ← hst1]
    have hd' : (done ++ [name]) ++ rest = S := by rw [← hd]; simp
    cases prev with
    | none =>
      cases (show done = [] from hinv.prev)
      refine ih ([] ++ [name]) _ _ hd' (hstep _ ⟨by simp, nF, fun p => ?_, hnb, by simpa [nameOf] using nN.trans hqn,
        nI ▸ List.nodup_singleton q, nB ▸ unionBy_nodup _ _ same_refl _⟩)
      rw [nI, List.nil_append, List.mem_singleton, List.mem_singleton]
      exact hq_iff p
    | some pd =>
      obtain ⟨p1, p2, p3, p4, p5, _, _⟩ := hinv.prev
      have hpne : pd.interiors ≠ [] := by
        obtain ⟨n, _, hdn⟩ := List.exists_cons_of_ne_nil p1
        obtain ⟨pn, hpn, hpnn⟩ := List.mem_map.mp (hSN n (hdS n (by rw [hdn]; simp)))
        exact List.ne_nil_of_mem ((p3 pn).mpr ⟨w.ints.subset hpn, by rw [hpnn, hdn]; simp⟩)
      obtain ⟨j, hj, j1, j2, j3, j4, j5, j6⟩ := joinDoms_ok w pd _ (ifaceName pd.name (patchDomain q st1.bnds).name) q
        (fun p hp => ((p3 p).mp hp).1) hpne nI hqps (fun h => hnd (hqn ▸ ((p3 q).mp h).2))
        (fun f hf => ((p4 f).mp hf).1) (fun f hf => ((hnb f).mp hf).1)
      simp only [hj, bind, Except.bind]
      refine ih (done ++ [name]) _ _ hd' (hstep _ ⟨by simp, j2, fun p => ?_, fun f => by rw [j4 f, p4 f, hnb f, Bnd_snoc],
        by rw [j1, nN, hqn, p5, nameOf_snoc _ _ p1], j5, j6⟩)
      rw [j3 p, p3 p, List.mem_append, List.mem_singleton, hq_iff p, and_or_left]

/-! ### writing the collected interfaces into the connectivity of the sub-domain -/

theorem connSet_of_inj (acc : List Iface) (x : Iface) (hinj : ∀ a ∈ acc, a.name = x.name → a = x) :
    connSet acc x = if x ∈ acc then acc else acc ++ [x] := by
  unfold connSet
  split_ifs with h1 h2 h2
  · conv_rhs => rw [← List.map_id acc]
    refine List.map_congr_left fun a ha => ?_
    split_ifs with hn
    · exact (hinj a ha (eq_of_beq hn)).symm
    · rfl
  · obtain ⟨e, he, hen⟩ := List.any_eq_true.mp h1
    exact absurd (hinj e he (eq_of_beq hen) ▸ he) h2
  · exact absurd (List.any_eq_true.mpr ⟨x, h2, beq_self_eq_true x.name⟩) h1
  · rfl

theorem foldl_connSet_spec (l acc : List Iface)
    (hinj : ∀ a ∈ acc ++ l, ∀ b ∈ acc ++ l, a.name = b.name → a = b) (hacc : acc.Nodup) :
    (l.foldl connSet acc).Nodup ∧ ∀ i, i ∈ l.foldl connSet acc ↔ i ∈ acc ∨ i ∈ l := by
  induction l generalizing acc with
  | nil => exact ⟨hacc, by simp⟩
  | cons x xs ih =>
    rw [List.foldl_cons, connSet_of_inj acc x fun a ha hn =>
      hinj a (List.mem_append_left _ ha) x (List.mem_append_right _ List.mem_cons_self) hn]
    split_ifs with hx
    · have sub : ∀ a, a ∈ acc ++ xs → a ∈ acc ++ x :: xs := fun a ha =>
        List.mem_append.mpr ((List.mem_append.mp ha).imp_right (List.mem_cons_of_mem x))
      obtain ⟨h1, h2⟩ := ih acc (fun a ha b hb => hinj a (sub a ha) b (sub b hb)) hacc
      refine ⟨h1, fun i => ?_⟩
      rw [h2 i, List.mem_cons]
      exact ⟨fun h => h.imp_right Or.inr, fun h => h.elim Or.inl fun h => h.elim (fun e => Or.inl (e ▸ hx)) Or.inr⟩
    · obtain ⟨h1, h2⟩ := ih (acc ++ [x]) (by rw [← List.append_cons]; exact hinj)
        (List.nodup_append.mpr ⟨hacc, List.nodup_singleton x, fun a ha b hb e => hx (List.mem_singleton.mp hb ▸ e ▸ ha)⟩)
      exact ⟨h1, fun i => by rw [h2 i, List.mem_append, List.mem_singleton, List.mem_cons, or_assoc]⟩

/-- no patch is joined to itself -/
def NoSelf (ps : List Patch) (cs : List Conn) : Prop :=
  ∀ c ∈ resolved ps cs, c.minus.patch.name ≠ c.plus.patch.name

instance (ps : List Patch) (cs : List Conn) : Decidable (NoSelf ps cs) := by unfold NoSelf; infer_instance

/-- `get_subdomain(tuple)` once the assertions on the names are passed -/
theorem getSubdomain_tup (d : Dom) (S : List String) (hS : S.Nodup) (hne : S ≠ [])
    (hSN : ∀ s ∈ S, s ∈ d.interiors.map Patch.name) (hns : ∀ p, d.interiors ≠ [p]) :
    d.getSubdomain (.tup S) =
      (if S.length == (d.interiors.map Patch.name).length || S.contains d.name then .ok .self
       else (subOuter d S S ⟨idict0 d, [], []⟩ none).bind (fun r =>
        match r.1 with
        | none => .error .outside
        | some pd => .ok (.dom { pd with ifaces := r.2.foldl connSet pd.ifaces }))) := by
  have hdd : dedupBy (· == ·) S = S := dedupBy_eq_self _ _ (hS.imp (by intro a b h; simpa using h))
  have hall : S.all (fun n => (d.interiors.map Patch.name).contains n || n == d.name) = true := by
    rw [List.all_eq_true]; intro n hn'
    simp [hSN n hn']
  cases hS' : S with
  | nil => exact absurd hS' hne
  | cons s0 ss =>
    rw [← hS']
    unfold Dom.getSubdomain
    rw [hS']
    simp only
    rw [← hS', hdd]
    simp only [bne_self_eq_false, Bool.false_eq_true, if_false, hall, Bool.not_true]
    rfl

/-! ### one mapping applied to a whole plain domain: `F(Omega)` -/

theorem mappedName_inj (m a b : String) (h : mappedName m a = mappedName m b) : a = b := by
  unfold mappedName at h
  have := congrArg String.toList h
  simp only [String.toList_append] at this
  have h1 := List.append_cancel_right this
  have h2 := List.append_cancel_left h1
  exact String.toList_inj.mp h2

theorem mapBy_name (m : String) (p : Patch) : (p.mapBy m).name = mappedName m p.lname := rfl

theorem plain_name {p : Patch} (h : p.mapping = none) : p.name = p.lname := by simp [Patch.name, h]

theorem namesOk_mapBy {ps : List Patch} (hn : NamesOk ps) (hplain : ∀ p ∈ ps, p.mapping = none) (m : String) :
    NamesOk (ps.map (Patch.mapBy m)) := by
  unfold NamesOk at hn ⊢
  rw [List.map_map]
  apply List.Nodup.map_on _ (List.Nodup.of_map _ hn)
  intro x hx y hy h
  simp only [Function.comp, mapBy_name] at h
  have := mappedName_inj m _ _ h
  rw [← plain_name (hplain x hx), ← plain_name (hplain y hy)] at this
  exact List.inj_on_of_nodup_map hn hx hy this

theorem mapBy_strip {p : Patch} (h : p.mapping = none) (m : String) : (p.mapBy m).strip = p := by
  cases p; simp_all [Patch.mapBy, Patch.strip]

theorem face_mapBy_strip {f : Face} (h : f.patch.mapping = none) (m : String) : (f.mapBy m).strip = f := by
  cases f; simp only [Face.mapBy, Face.strip, Face.mk.injEq, and_true]; exact mapBy_strip h m

end Sympde.Topo

/-
  What the dispatch to a leaf class needs.  The generated index is looked up by class and signature
  (`findEntry`); the forms under which a lowered argument reaches a class (`ArgForm`) determine its
  signature and the names `bindArg` binds; in a ring that binds these names the placeholder arguments
  of the index denote the actual arguments (`ph_reads`); the facts about the two generated tables
  that the dispatch uses are collected in `Covers` and tested by `covers`.  Then lowered values over
  a class of scalar forms (`ScalarClass`, `Shaped`): their sums and products, and the instantiation
  of a leaf formula on them (over a graded class `Forms`).
-/
import SympdeModel.Lemmas.LowerOps
import SympdeModel.Lemmas.LowerForms
import SympdeModel.Gen.LeafThms
namespace Sympde.Lower
open E PD Gen

variable {K : Type} [CommRing K] [Algebra ℚ K]

/-! ### the generated index of leaf theorems -/

def findEntry (cn sg : String) : Option LeafEntry :=
  leafIndex.find? (fun r => r.cname == cn && r.sigs == sg)

theorem findEntry_sound (S : DRing K) (cn sg : String) (r : LeafEntry) (h : findEntry cn sg = some r) :
    ∀ i j, i < r.ri → j < r.rj → den S r.F i j = denG S r.dim r.lg r.node i j :=
  leaf_index S r (List.mem_of_find?_eq_some h)

/-- the placeholder argument of signature `c` at position `k` in dimension `d`
    (harness/translate/leaf.py `placeholder_term`) -/
def ph (k : Nat) (c : Char) (d : Nat) : E :=
  if c = 'v' then
    mat d 1 ((List.range d).map (fun i => sf ("@" ++ toString k ++ "_" ++ toString i) .undef))
  else if c = 'm' then
    mat d d ((List.range d).flatMap (fun i => (List.range d).map (fun j =>
      sf ("@" ++ toString k ++ "_" ++ toString i ++ "_" ++ toString j) .undef)))
  else sf ("@" ++ toString k) .undef

mutual
def pdDepth : E → Nat
  | pd _ a => pdDepth a + 1
  | add as => pdDepthList as
  | mul as => pdDepthList as
  | mat _ _ es => pdDepthList es
  | _ => 0
def pdDepthList : List E → Nat
  | [] => 0
  | a :: as => max (pdDepth a) (pdDepthList as)
end

theorem pdDepth_mem (as : List E) (a : E) (ha : a ∈ as) : pdDepth a ≤ pdDepthList as := by
  induction as with
  | nil => cases ha
  | cons x xs ih =>
    simp only [pdDepthList]
    rcases List.mem_cons.mp ha with rfl | ha
    · omega
    · have := ih ha; omega

/-! ### the forms of the arguments of a leaf class -/

/-- what `sigOf`, `bindArg`, `addV` and `mulV` treat as a scalar: neither a matrix nor a tuple -/
def isScalarForm : E → Bool
  | mat _ _ _ => false
  | tup _ => false
  | _ => true

theorem LS_scalarForm (t : E) (h : LS t = true) : isScalarForm t = true := by
  cases t <;> first | rfl | exact absurd h Bool.false_ne_true

theorem sigOf_scalarForm (d : Nat) (t : E) (h : isScalarForm t = true) :
    sigOf d t = some 's' ∨ (d = 1 ∧ sigOf d t = some 'd') := by
  cases t <;> first
    | exact Or.inl rfl
    | exact absurd h Bool.false_ne_true
    | (by_cases hd : d = 1 <;> simp [sigOf, hd])

theorem bindArg_scalarForm (d k : Nat) (t : E) (h : isScalarForm t = true) :
    bindArg d k t = [("@" ++ toString k, t)] := by
  cases t <;> first
    | exact absurd h Bool.false_ne_true
    | simp only [bindArg, ite_self, List.append_nil]

/-- the forms under which a lowered value of type `τ` reaches a leaf class in dimension `d`: a scalar
    form, a column, a square matrix -/
def ArgForm (d : Nat) (τ : Ty) (t : E) : Prop :=
  (isScalarForm t = true ∧ (τ = .s ∨ d = 1)) ∨
  (∃ es, t = mat d 1 es ∧ (τ = .v ∨ (τ = .m ∧ d = 1))) ∨
  (∃ es, t = mat d d es ∧ τ = .m ∧ d ≠ 1)

/-- the signatures of these forms -/
def sigsOf (d : Nat) : Ty → List Char
  | .s => if d = 1 then ['s', 'd'] else ['s']
  | .v => if d = 1 then ['v', 's', 'd'] else ['v']
  | .m => if d = 1 then ['v', 's', 'd'] else ['m']

theorem sigOf_col (d : Nat) (es : List E) : sigOf d (mat d 1 es) = some 'v' := by
  simp [sigOf]

theorem sigOf_sq (d : Nat) (hd : d ≠ 1) (es : List E) : sigOf d (mat d d es) = some 'm' := by
  simp [sigOf, hd]

theorem sigOf_argForm (d : Nat) (τ : Ty) (t : E) (h : ArgForm d τ t) :
    ∃ c ∈ sigsOf d τ, sigOf d t = some c := by
  rcases h with ⟨hs, hτ⟩ | ⟨es, rfl, hτ⟩ | ⟨es, rfl, rfl, hd⟩
  · rcases sigOf_scalarForm d t hs with h | ⟨rfl, h⟩
    · refine ⟨'s', ?_, h⟩
      rcases hτ with rfl | rfl
      · by_cases hd : d = 1 <;> simp [sigsOf, hd]
      · cases τ <;> simp [sigsOf]
    · exact ⟨'d', by cases τ <;> simp [sigsOf], h⟩
  · refine ⟨'v', ?_, sigOf_col d es⟩
    rcases hτ with rfl | ⟨rfl, rfl⟩
    · by_cases hd : d = 1 <;> simp [sigsOf, hd]
    · simp [sigsOf]
  · exact ⟨'m', by simp [sigsOf, hd], sigOf_sq d hd es⟩

/-! ### what a binding built by `bindArg` binds -/

theorem findBind_cons (q : String × E) (σ : List (String × E)) (n : String) :
    findBind (q :: σ) n = if q.1 = n then some q.2 else findBind σ n := by
  by_cases h : q.1 = n <;> simp [findBind, h]

theorem findBind_of_mem (σ : List (String × E)) (h : (σ.map (·.1)).Nodup) (p : String × E)
    (hp : p ∈ σ) : findBind σ p.1 = some p.2 := by
  induction σ with
  | nil => cases hp
  | cons q σ ih =>
    rw [List.map_cons, List.nodup_cons] at h
    rw [findBind_cons]
    rcases List.mem_cons.mp hp with rfl | hp
    · rw [if_pos rfl]
    · rw [if_neg (fun e : q.1 = p.1 => h.1 (e ▸ List.mem_map_of_mem hp)), ih h.2 hp]

/-- the names `bindArg d k a` binds for an argument `a` of signature `c` -/
def argKeys (d k : Nat) (c : Char) : List String :=
  if c = 'v' then (List.range d).map (fun i => "@" ++ toString k ++ "_" ++ toString i)
  else if c = 'm' then (List.range d).flatMap (fun i => (List.range d).map (fun j =>
    "@" ++ toString k ++ "_" ++ toString i ++ "_" ++ toString j))
  else ["@" ++ toString k]

theorem bindArg_keys (d k : Nat) (τ : Ty) (t : E) (c : Char) (h : ArgForm d τ t)
    (hc : sigOf d t = some c) : (bindArg d k t).map (·.1) = argKeys d k c := by
  rcases h with ⟨hs, _⟩ | ⟨es, rfl, _⟩ | ⟨es, rfl, _, hd⟩
  · rw [bindArg_scalarForm d k t hs]
    rcases sigOf_scalarForm d t hs with h | ⟨_, h⟩ <;>
      (rw [h] at hc; cases hc; rfl)
  · rw [sigOf_col] at hc; cases hc
    simp [bindArg, argKeys, List.map_map, Function.comp_def]
  · rw [sigOf_sq d hd] at hc; cases hc
    simp [bindArg, argKeys, hd, List.map_flatMap, List.map_map, Function.comp_def]

theorem sigmaOf_one (d : Nat) (a : E) : sigmaOf d [a] = bindArg d 0 a := by
  simp [sigmaOf, List.zipIdx]

theorem sigmaOf_two (d : Nat) (a b : E) : sigmaOf d [a, b] = bindArg d 0 a ++ bindArg d 1 b := by
  simp [sigmaOf, List.zipIdx]

/-! ### reading the placeholders of an entry in the bound ring -/

theorem den_mat_nth (S : DRing K) (r c : Nat) (es : List E) (i j : Nat) :
    den S (mat r c es) i j = if i < r ∧ j < c then den S (nth es (i * c + j)) 0 0 else 0 := by
  simp only [den, denNth_getD, nth]

theorem nth_range_map (d : Nat) (f : Nat → E) (i : Nat) (hi : i < d) :
    nth ((List.range d).map f) i = f i := by
  simp [nth, List.getD, hi]

theorem ph_reads (S : DRing K) (d : Nat) (hd : d = 1 ∨ d = 2 ∨ d = 3) (lg : Bool) (k : Nat) (τ : Ty)
    (t : E) (c : Char) (h : ArgForm d τ t) (hc : sigOf d t = some c) (σ : List (String × E))
    (hσ : ∀ p ∈ bindArg d k t, findBind σ p.1 = some p.2) (i j : Nat) (hij : InR d τ i j) :
    denG (bindS S σ) d lg (ph k c d) i j = den S t i j := by
  rcases h with ⟨hs, hτ⟩ | ⟨es, rfl, hτ⟩ | ⟨es, rfl, rfl, hd1⟩
  · have hph : ph k c d = sf ("@" ++ toString k) .undef := by
      rcases sigOf_scalarForm d t hs with h | ⟨_, h⟩ <;> (rw [h] at hc; cases hc; rfl)
    have h00 : i = 0 ∧ j = 0 := by
      rcases hτ with rfl | rfl
      · exact hij
      · exact (InR_one τ i j).mp hij
    obtain ⟨rfl, rfl⟩ := h00
    rw [hph]
    exact bindS_sf S σ _ t (hσ _ (by rw [bindArg_scalarForm d k t hs]; exact List.mem_singleton.mpr rfl))
  · rw [sigOf_col] at hc; cases hc
    have hi : i < d ∧ j = 0 := by
      rcases hτ with rfl | ⟨rfl, rfl⟩
      · exact hij
      · exact ⟨hij.1, Nat.lt_one_iff.mp hij.2⟩
    obtain ⟨hi, rfl⟩ := hi
    have hmem : ("@" ++ toString k ++ "_" ++ toString i, nth es i) ∈ bindArg d k (mat d 1 es) :=
      List.mem_map.mpr ⟨i, List.mem_range.mpr hi, rfl⟩
    rw [den_mat_nth, if_pos ⟨hi, Nat.one_pos⟩, Nat.mul_one, Nat.add_zero]
    show denG (bindS S σ) d lg (mat d 1 _) i 0 = _
    simp only [denG]
    rw [if_pos ⟨hi, Nat.one_pos⟩, Nat.mul_one, Nat.add_zero, LeafCheck.denGNth_getD]
    show denG (bindS S σ) d lg (nth _ i) 0 0 = _
    rw [nth_range_map d _ i hi]
    exact bindS_sf S σ _ _ (hσ _ hmem)
  · rw [sigOf_sq d hd1] at hc; cases hc
    have hmem : ("@" ++ toString k ++ "_" ++ toString i ++ "_" ++ toString j, nth es (i * d + j))
        ∈ bindArg d k (mat d d es) := by
      simp only [bindArg, beq_iff_eq, hd1, if_false]
      exact List.mem_flatMap.mpr ⟨i, List.mem_range.mpr hij.1,
        List.mem_map.mpr ⟨j, List.mem_range.mpr hij.2, rfl⟩⟩
    obtain ⟨hi, hj⟩ := hij
    rw [den_mat_nth, if_pos ⟨hi, hj⟩]
    refine Eq.trans ?_ (bindS_sf S σ _ _ (hσ _ hmem))
    rcases hd with rfl | rfl | rfl
    · exact absurd rfl hd1
    · obtain rfl | rfl : i = 0 ∨ i = 1 := by omega
      all_goals obtain rfl | rfl : j = 0 ∨ j = 1 := by omega
      all_goals rfl
    · obtain rfl | rfl | rfl : i = 0 ∨ i = 1 ∨ i = 2 := by omega
      all_goals obtain rfl | rfl | rfl : j = 0 ∨ j = 1 ∨ j = 2 := by omega
      all_goals rfl

/-! ### the table facts the dispatch rests on -/

theorem classKnown_of_lookup (cname sigs : String) (F : E)
    (h : lookup cname sigs = some (.formula F)) : classKnown cname = true := by
  unfold lookup at h
  cases hf : leafTable.find? (fun r => r.1 == cname && r.2.1 == sigs) with
  | none => rw [hf] at h; cases h
  | some row =>
    rw [hf] at h
    have hrow : row.2.2 = .formula F := by simpa using h
    have hp := List.find?_some hf
    simp only [Bool.and_eq_true] at hp
    exact List.any_eq_true.mpr ⟨row, List.mem_of_find?_eq_some hf, by simp [hp.1, hrow]⟩

/-- what the dispatch uses of the table for the class `cname` and the signatures `cs`: the entry is a
    formula `F` of the shape of type `τ` whose derivative nodes nest at most `m` deep, the index
    proves it equal to the classical meaning of `node`, and the names of its placeholders are distinct -/
structure Covers (d : Nat) (lg : Bool) (τ : Ty) (m : Nat) (cname : String) (cs : List Char)
    (node F : E) : Prop where
  known : classKnown cname = true
  look : lookup cname (String.ofList cs) = some (.formula F)
  sound : ∀ {K : Type} [CommRing K] [Algebra ℚ K] (S : DRing K) (i j : Nat),
    i < rows d τ → j < cols d τ → den S F i j = denG S d lg node i j
  shape : shapeOK d τ F = true
  depth : pdDepth F ≤ m
  keys : (cs.zipIdx.flatMap fun ck => argKeys d ck.2 ck.1).Nodup

/-- the same as a test on the two generated tables -/
def covers (d : Nat) (lg : Bool) (τ : Ty) (m : Nat) (cname : String) (cs : List Char) (node : E) :
    Bool :=
  match findEntry cname (String.ofList cs), lookup cname (String.ofList cs) with
  | some r, some (.formula F) =>
      F == r.F && r.dim == d && r.lg == lg && r.node == node && r.ri == rows d τ &&
      r.rj == cols d τ && shapeOK d τ F && decide (pdDepth F ≤ m) &&
      decide (cs.zipIdx.flatMap fun ck => argKeys d ck.2 ck.1).Nodup
  | _, _ => false

theorem covers_spec (d : Nat) (lg : Bool) (τ : Ty) (m : Nat) (cname : String) (cs : List Char)
    (node : E) (h : covers d lg τ m cname cs node = true) :
    ∃ F, Covers d lg τ m cname cs node F := by
  unfold covers at h
  split at h
  · rename_i r F hr hl
    simp only [Bool.and_eq_true, beq_iff_eq, decide_eq_true_eq] at h
    obtain ⟨⟨⟨⟨⟨⟨⟨⟨hF, hdim⟩, hlg⟩, hnode⟩, hri⟩, hrj⟩, hsh⟩, hdep⟩, hkeys⟩ := h
    refine ⟨F, classKnown_of_lookup _ _ F hl, hl, fun S i j hi hj => ?_, hsh, hdep, hkeys⟩
    rw [hF, ← hdim, ← hlg, ← hnode]
    exact findEntry_sound S _ _ r hr i j (by rw [hri]; exact hi) (by rw [hrj]; exact hj)
  · cases h

/-! ### lowered values over a class of scalar forms -/

/-- a class of scalar forms closed under the sums and products the model builds, whose values do not
    depend on the component indices -/
structure ScalarClass (S : DRing K) (P : E → Prop) : Prop where
  form : ∀ t, P t → isScalarForm t = true
  add : ∀ a b, P a → P b → P (add [a, b])
  mul : ∀ a b, P a → P b → P (mul [a, b])
  free : ∀ t, P t → ∀ i j, den S t i j = den S t 0 0

/-- `t` is a lowered value of type `τ` in dimension `d` with scalar entries in `P`: a scalar form
    (always for a scalar; in dimension 1 also for a vector or matrix: the gradient of a scalar is
    the bare node `dx(u)`), or a matrix with `d` rows and one column (vectors) or `d` (matrices) -/
def Shaped (P : E → Prop) (d : Nat) (τ : Ty) (t : E) : Prop :=
  (P t ∧ (τ = .s ∨ d = 1)) ∨
  (∃ es, t = mat d (cols d τ) es ∧ es.length = d * cols d τ ∧ (∀ e ∈ es, P e) ∧ τ ≠ .s)

theorem Shaped.argForm {P : E → Prop} (hP : ∀ t, P t → isScalarForm t = true) {d : Nat} {τ : Ty}
    {t : E} (h : Shaped P d τ t) : ArgForm d τ t := by
  rcases h with ⟨ht, hτ⟩ | ⟨es, rfl, _, _, hτ⟩
  · exact Or.inl ⟨hP t ht, hτ⟩
  · cases τ
    · exact absurd rfl hτ
    · exact Or.inr (Or.inl ⟨es, rfl, Or.inl rfl⟩)
    · by_cases hd : d = 1
      · subst hd; exact Or.inr (Or.inl ⟨es, rfl, Or.inr ⟨rfl, rfl⟩⟩)
      · exact Or.inr (Or.inr ⟨es, rfl, rfl, hd⟩)

theorem hasShape_iff (d : Nat) (τ : Ty) (t : E) :
    hasShape d τ t = true ↔ Shaped (fun e => LS e = true) d τ t := by
  unfold hasShape Shaped
  split
  · simp
  · simp [cols, LS, LSList_iff, and_assoc]
  · simp_all [and_comm]
  · simp [cols, LS, LSList_iff, and_assoc]
  · simp_all [and_comm]

theorem shapeOK_iff (d : Nat) (τ : Ty) (F : E) :
    shapeOK d τ F = true ↔ Shaped (fun e => FS e = true) d τ F := by
  unfold shapeOK Shaped
  split
  · simp
  · simp [cols, FS, FSList_iff, and_assoc]
  · simp_all [and_comm]
  · simp [cols, FS, FSList_iff, and_assoc]
  · simp_all [and_comm]

theorem LS_not_mat (t : E) (h : LS t = true) : ∀ r c es, t ≠ mat r c es := by
  intro r c es he; subst he; exact absurd (LS_scalarForm _ h) Bool.false_ne_true

theorem Shaped.mono {P Q : E → Prop} (h : ∀ t, P t → Q t) {d : Nat} {τ : Ty} {t : E}
    (ht : Shaped P d τ t) : Shaped Q d τ t :=
  ht.imp (fun ⟨hP, hτ⟩ => ⟨h t hP, hτ⟩) fun ⟨es, he, hl, hes, hτ⟩ =>
    ⟨es, he, hl, fun e hm => h e (hes e hm), hτ⟩

theorem Shaped.bindArg {P : E → Prop} (hP : ∀ t, P t → isScalarForm t = true) (h0 : P zero)
    {d : Nat} {τ : Ty} {t : E} (ht : Shaped P d τ t) (j : Nat) : ∀ p ∈ bindArg d j t, P p.2 := by
  have hn : ∀ (es : List E), (∀ e ∈ es, P e) → ∀ n, P (nth es n) := fun es hes n => by
    rw [nth, List.getD_eq_getElem?_getD]
    cases hn : es[n]? with
    | none => exact h0
    | some a => exact hes a (List.mem_of_getElem? hn)
  rcases ht with ⟨ht, _⟩ | ⟨es, rfl, _, hes, _⟩
  · rw [bindArg_scalarForm d j t (hP t ht)]
    exact fun p hp => List.mem_singleton.mp hp ▸ ht
  · intro p hp
    simp only [Lower.bindArg] at hp
    split at hp
    · obtain ⟨i, _, rfl⟩ := List.mem_map.mp hp
      exact hn es hes _
    · obtain ⟨i, _, hp⟩ := List.mem_flatMap.mp hp
      obtain ⟨j', _, rfl⟩ := List.mem_map.mp hp
      exact hn es hes _

/-- the shape of the lowered form of a value of type `τ`, over extended scalar forms -/
def hasShapeX (d : Nat) : Ty → E → Bool
  | .s, t => LX t
  | .v, mat r c es => r == d && c == 1 && es.length == d && LXList es
  | .v, t => d == 1 && LX t
  | .m, mat r c es => r == d && c == d && es.length == d * d && LXList es
  | .m, t => d == 1 && LX t

theorem hasShapeX_iff (d : Nat) (τ : Ty) (t : E) :
    hasShapeX d τ t = true ↔ Shaped (fun e => LX e = true) d τ t := by
  unfold hasShapeX Shaped
  split
  · simp
  · simp [cols, LX, LXList_iff, and_assoc]
  · simp_all [and_comm]
  · simp [cols, LX, LXList_iff, and_assoc]
  · simp_all [and_comm]

theorem LX_scalarForm (t : E) (h : LX t = true) : isScalarForm t = true := by
  cases t <;> first | rfl | exact absurd h Bool.false_ne_true

theorem LX_not_mat (t : E) (h : LX t = true) : ∀ r c es, t ≠ mat r c es := by
  intro r c es he; subst he; exact absurd (LX_scalarForm _ h) Bool.false_ne_true

/-- every scalar entry of a lowered value may be differentiated `k` more times -/
def VN (S : DRing K) (k : Nat) : E → Prop
  | mat _ _ es => ∀ e ∈ es, LN S k e
  | t => LN S k t

theorem VN_mono (S : DRing K) (k k' : Nat) (hk : k ≤ k') (t : E) (h : VN S k' t) : VN S k t := by
  cases t <;> first | exact LN_mono S k k' hk _ h | exact fun e he => LN_mono S k k' hk e (h e he)

theorem VN_mat_iff (S : DRing K) (k : Nat) (r c : Nat) (es : List E) :
    VN S k (mat r c es) ↔ ∀ e ∈ es, LN S k e := Iff.rfl

theorem Forms.scalarClass {S : DRing K} {d : Nat} {P : Nat → E → Prop} {ext total : Prop}
    (W : Forms S d P ext total) (k : Nat) : ScalarClass S (P k) where
  form t h := LX_scalarForm t (W.lx h)
  add _ _ ha hb := W.sum (forall_mem_pair ha hb)
  mul _ _ ha hb := W.prod (forall_mem_pair ha hb)
  free t h := den_LX_free S t (W.lx h)

/-! ### sums and products of lowered values (sympy `+` and `*` on scalars and matrices) -/

theorem addV_scalar (a b : E) (ha : isScalarForm a = true) (hb : isScalarForm b = true) :
    addV a b = .ok (add [a, b]) := by
  unfold addV
  split <;> first | rfl | exact absurd ha Bool.false_ne_true | exact absurd hb Bool.false_ne_true

theorem addV_scalar_mat (a : E) (ha : isScalarForm a = true) (r c : Nat) (es : List E) :
    addV a (mat r c es) = if r == 1 && c == 1 then
      .ok (mat 1 1 (([a].zip es).map (fun p => add [p.1, p.2]))) else .error .typeError := by
  cases a <;> first | rfl | exact absurd ha Bool.false_ne_true

theorem addV_mat_scalar (b : E) (hb : isScalarForm b = true) (r c : Nat) (es : List E) :
    addV (mat r c es) b = if r == 1 && c == 1 then
      .ok (mat 1 1 ((es.zip [b]).map (fun p => add [p.1, p.2]))) else .error .typeError := by
  cases b <;> first | rfl | exact absurd hb Bool.false_ne_true

theorem mulV_scalar (a b : E) (ha : isScalarForm a = true) (hb : isScalarForm b = true) :
    mulV a b = .ok (mul [a, b]) := by
  unfold mulV
  split <;> first | rfl | exact absurd ha Bool.false_ne_true | exact absurd hb Bool.false_ne_true

theorem mulV_scalar_mat (a : E) (ha : isScalarForm a = true) (r c : Nat) (es : List E) :
    mulV a (mat r c es) = .ok (mat r c (es.map (fun e => mul [a, e]))) := by
  cases a <;> first | rfl | exact absurd ha Bool.false_ne_true

theorem mulV_mat_scalar (b : E) (hb : isScalarForm b = true) (r c : Nat) (es : List E) :
    mulV (mat r c es) b = .ok (mat r c (es.map (fun e => mul [e, b]))) := by
  cases b <;> first | rfl | exact absurd hb Bool.false_ne_true

theorem denNth_zip_add (S : DRing K) (es es' : List E) (h : es.length = es'.length) (n : Nat) :
    denNth S ((es.zip es').map (fun p => add [p.1, p.2])) n = denNth S es n + denNth S es' n := by
  induction es generalizing es' n with
  | nil =>
    cases es' with
    | nil => simp [denNth]
    | cons y ys => simp at h
  | cons x xs ih =>
    cases es' with
    | nil => simp at h
    | cons y ys =>
      cases n with
      | zero => simp [denNth, den, denSum]
      | succ n => simpa [denNth] using ih ys (by simpa using h) n

theorem denNth_map_mul_left (S : DRing K) (s : E) (es : List E) (n : Nat) :
    denNth S (es.map (fun e => mul [s, e])) n = den S s 0 0 * denNth S es n := by
  induction es generalizing n with
  | nil => simp [denNth]
  | cons x xs ih =>
    cases n with
    | zero => simp [denNth, den, denProd]
    | succ n => simpa [denNth] using ih n

theorem denNth_map_mul_right (S : DRing K) (s : E) (es : List E) (n : Nat) :
    denNth S (es.map (fun e => mul [e, s])) n = denNth S es n * den S s 0 0 := by
  induction es generalizing n with
  | nil => simp [denNth]
  | cons x xs ih =>
    cases n with
    | zero => simp [denNth, den, denProd]
    | succ n => simpa [denNth] using ih n

theorem mixed_1d (d : Nat) (τ : Ty) (es : List E) (hτ : τ ≠ .s) (hb : τ = .s ∨ d = 1)
    (hl : es.length = d * cols d τ) : d = 1 ∧ cols d τ = 1 ∧ ∃ e0, es = [e0] := by
  have hd : d = 1 := hb.resolve_left hτ
  subst hd
  have hc : cols 1 τ = 1 := by cases τ <;> simp_all [cols]
  rw [hc] at hl
  refine ⟨rfl, hc, ?_⟩
  cases es with
  | nil => simp at hl
  | cons x xs =>
    cases xs with
    | nil => exact ⟨x, rfl⟩
    | cons _ _ => simp at hl

/-- the component identity is stated on the in-range components: in dimension 1 a scalar form and a
    1×1 matrix add up to a 1×1 matrix (the repaired `Add` branch), which has a value at (0,0) only -/
theorem addV_shaped (S : DRing K) {P : E → Prop} (hP : ScalarClass S P) (d : Nat) (τ : Ty)
    (a b : E) (ha : Shaped P d τ a) (hb : Shaped P d τ b) :
    Res True (fun t => Shaped P d τ t ∧
      ∀ i j, InR d τ i j → den S t i j = den S a i j + den S b i j) (addV a b) := by
  rcases ha with ⟨ha, hτa⟩ | ⟨es, rfl, hl, hes, hτ⟩ <;>
    rcases hb with ⟨hb, hτb⟩ | ⟨es', rfl, hl', hes', hτ'⟩
  · rw [addV_scalar a b (hP.form a ha) (hP.form b hb)]
    exact Res.ok ⟨Or.inl ⟨hP.add a b ha hb, hτa⟩, fun i j _ => by simp [den, denSum]⟩
  · obtain ⟨rfl, hc, e0, rfl⟩ := mixed_1d d τ es' hτ' hτa hl'
    rw [hc, addV_scalar_mat a (hP.form a ha)]
    refine Res.ok ⟨Or.inr ⟨_, by rw [hc], by simp [hc], ?_, hτ'⟩, fun i j hij => ?_⟩
    · intro e he
      obtain rfl : e = add [a, e0] := by simpa using he
      exact hP.add a e0 ha (hes' e0 (by simp))
    · obtain ⟨rfl, rfl⟩ := (InR_one τ i j).mp hij
      simp [den, denNth, denSum]
  · obtain ⟨rfl, hc, e0, rfl⟩ := mixed_1d d τ es hτ hτb hl
    rw [hc, addV_mat_scalar b (hP.form b hb)]
    refine Res.ok ⟨Or.inr ⟨_, by rw [hc], by simp [hc], ?_, hτ⟩, fun i j hij => ?_⟩
    · intro e he
      obtain rfl : e = add [e0, b] := by simpa using he
      exact hP.add e0 b (hes e0 (by simp)) hb
    · obtain ⟨rfl, rfl⟩ := (InR_one τ i j).mp hij
      simp [den, denNth, denSum]
  · simp only [addV, beq_self_eq_true, Bool.and_self, if_true]
    refine Res.ok ⟨Or.inr ⟨_, rfl, by simp [hl, hl'], ?_, hτ⟩, fun i j _ => ?_⟩
    · intro e he
      obtain ⟨p, hp, rfl⟩ := List.mem_map.mp he
      have := List.of_mem_zip hp
      exact hP.add _ _ (hes _ this.1) (hes' _ this.2)
    · simp only [den]
      split
      · exact denNth_zip_add S es es' (by rw [hl, hl']) _
      · simp

theorem mulV_shaped (S : DRing K) {P : E → Prop} (hP : ScalarClass S P) (d : Nat) (τa τb τ : Ty)
    (a b : E) (ha : Shaped P d τa a) (hb : Shaped P d τb b) (htm : tmul τa τb = some τ) :
    Res True (fun t => Shaped P d τ t ∧ ∀ i j, den S t i j = den S a i j * den S b i j)
      (mulV a b) := by
  rcases ha with ⟨ha, hτa⟩ | ⟨es, rfl, hl, hes, hτ⟩ <;>
    rcases hb with ⟨hb, hτb⟩ | ⟨es', rfl, hl', hes', hτ'⟩
  · rw [mulV_scalar a b (hP.form a ha) (hP.form b hb)]
    refine Res.ok ⟨Or.inl ⟨hP.mul a b ha hb, ?_⟩, fun i j => by simp [den, denProd]⟩
    rcases tmul_cases τa τb τ htm with h1 | h1
    · rw [h1.2]; exact hτb
    · rw [h1.2]; exact hτa
  · obtain ⟨_, rfl⟩ : τa = .s ∧ τ = τb := (tmul_cases τa τb τ htm).resolve_right (fun h1 => hτ' h1.1)
    rw [mulV_scalar_mat a (hP.form a ha)]
    refine Res.ok ⟨Or.inr ⟨_, rfl, by simp [hl'], ?_, hτ'⟩, fun i j => ?_⟩
    · intro e he
      obtain ⟨e', he', rfl⟩ := List.mem_map.mp he
      exact hP.mul a e' ha (hes' e' he')
    · simp only [den]
      split
      · rw [denNth_map_mul_left, hP.free a ha i j]
      · simp
  · obtain ⟨_, rfl⟩ : τb = .s ∧ τ = τa := (tmul_cases τa τb τ htm).resolve_left (fun h1 => hτ h1.1)
    rw [mulV_mat_scalar b (hP.form b hb)]
    refine Res.ok ⟨Or.inr ⟨_, rfl, by simp [hl], ?_, hτ⟩, fun i j => ?_⟩
    · intro e he
      obtain ⟨e', he', rfl⟩ := List.mem_map.mp he
      exact hP.mul e' b (hes e' he') hb
    · simp only [den]
      split
      · rw [denNth_map_mul_right, hP.free b hb i j]
      · simp
  · rcases tmul_cases τa τb τ htm with h1 | h1
    · exact absurd h1.1 hτ
    · exact absurd h1.1 hτ'

theorem foldAdd_shaped (S : DRing K) {P : E → Prop} (hP : ScalarClass S P) (d : Nat) (τ : Ty)
    (ts : List E) (acc : E) (hacc : Shaped P d τ acc) (hts : ∀ x ∈ ts, Shaped P d τ x) :
    Res True (fun t => Shaped P d τ t ∧
      ∀ i j, InR d τ i j → den S t i j = den S acc i j + denSum S ts i j) (ts.foldlM addV acc) := by
  induction ts generalizing acc with
  | nil => exact Res.ok ⟨hacc, fun i j _ => by simp [denSum]⟩
  | cons x ts ih =>
    rw [List.foldlM_cons]
    exact (addV_shaped S hP d τ acc x hacc (hts x (by simp))).bind fun acc' h1 =>
      (ih acc' h1.1 fun y hy => hts y (by simp [hy])).mono fun t ht => ⟨ht.1, fun i j hij => by
        rw [ht.2 i j hij, h1.2 i j hij]; simp only [denSum]; ring⟩

theorem foldMul_shaped (S : DRing K) {P : E → Prop} (hP : ScalarClass S P) (d : Nat) (ts : List E)
    (τs : List Ty) (acc : E) (τacc τ : Ty) (hacc : Shaped P d τacc acc)
    (hts : List.Forall₂ (fun x τx => Shaped P d τx x) ts τs) (hτ : tmulList τacc τs = some τ) :
    Res True (fun t => Shaped P d τ t ∧ ∀ i j, den S t i j = den S acc i j * denProd S ts i j)
      (ts.foldlM mulV acc) := by
  induction hts generalizing acc τacc with
  | nil =>
    cases hτ
    exact Res.ok ⟨hacc, fun i j => by simp [denProd]⟩
  | @cons x τx ts τs hx _ ih =>
    obtain ⟨τ', hm, hτ⟩ := Option.bind_eq_some_iff.mp hτ
    rw [List.foldlM_cons]
    exact (mulV_shaped S hP d τacc τx τ' acc x hacc hx hm).bind fun acc' h1 =>
      (ih acc' τ' h1.1 hτ).mono fun t ht => ⟨ht.1, fun i j => by
        rw [ht.2 i j, h1.2 i j]; simp only [denProd]; ring⟩

/-! ### instantiated leaf formulas over a graded class of scalar forms -/

section
variable {S : DRing K} {d : Nat} {P : Nat → E → Prop} {ext total : Prop}

theorem instList_forms (σ : List (String × E)) (k : Nat) (fs : List E)
    (ih : ∀ f ∈ fs, Res total (fun t => P k t ∧ ∀ i j, den S t i j = den (bindS S σ) f i j)
      (inst d σ f)) :
    Res total (fun ts => (∀ t ∈ ts, P k t) ∧ ts.length = fs.length ∧
      (∀ i j, denSum S ts i j = denSum (bindS S σ) fs i j) ∧
      (∀ i j, denProd S ts i j = denProd (bindS S σ) fs i j) ∧
      ∀ n, denNth S ts n = denNth (bindS S σ) fs n) (instList d σ fs) := by
  induction fs with
  | nil => exact Res.ok ⟨fun t ht => (nomatch ht), rfl, fun _ _ => rfl, fun _ _ => rfl, fun _ => rfl⟩
  | cons f fs ihf =>
    simp only [instList]
    exact (ih f (by simp)).bind fun t ht =>
      (ihf fun x hx => ih x (by simp [hx])).bind fun ts hts =>
        Res.ok ⟨List.forall_mem_cons.mpr ⟨ht.1, hts.1⟩, by simp [hts.2.1],
          fun i j => by simp only [denSum, ht.2, hts.2.2.1],
          fun i j => by simp only [denProd, ht.2, hts.2.2.2.1],
          fun n => by cases n <;> simp only [denNth, ht.2, hts.2.2.2.2]⟩

/-- the derivative nodes of the formula are evaluated (`dEval`) on the bound values, each costing a
    grade: bound values of grade `k + pdDepth f` give a result of grade `k`, which denotes the formula
    read in the bound ring -/
theorem inst_forms (W : Forms S d P ext total) (σ : List (String × E)) (f : E) (hf : FS f = true)
    (k : Nat) (hσ : ∀ p ∈ σ, P (k + pdDepth f) p.2) :
    Res total (fun t => P k t ∧ ∀ i j, den S t i j = den (bindS S σ) f i j) (inst d σ f) := by
  induction f using E.induction generalizing k with
  | num p q => exact Res.ok ⟨W.ls rfl, fun _ _ => rfl⟩
  | sf n kd =>
    refine Res.ok ?_
    cases hb : findBind σ n with
    | none => exact ⟨W.ls rfl, fun i j => by simp [den, bindS, hb]⟩
    | some e =>
      obtain ⟨p, hp, rfl⟩ := findBind_mem σ n e hb
      refine ⟨hσ p hp, fun i j => ?_⟩
      simp only [Option.getD_some, den, bindS_sf S σ n _ hb]
      exact den_LX_free S _ (W.lx (hσ p hp)) i j
  | pd c a ih =>
    simp only [inst]
    refine (ih hf (k + 1) fun p hp => ?_).bind fun a' ha => (W.deriv c ha.1).mono fun t ht =>
      ⟨ht.1, fun i j => by simp only [den, bindS_D]; rw [ht.2 i j, ha.2 i j]⟩
    exact W.mono (by simp only [pdDepth]; omega) (hσ p hp)
  | add as ih =>
    simp only [inst]
    refine (instList_forms σ k as fun f hfm => ih f hfm (FSList_mem hf hfm) k fun p hp =>
      W.mono ?_ (hσ p hp)).bind fun ts hts => Res.ok ⟨W.sum hts.1, hts.2.2.1⟩
    have := pdDepth_mem as f hfm
    simp only [pdDepth]; omega
  | mul as ih =>
    simp only [inst]
    refine (instList_forms σ k as fun f hfm => ih f hfm (FSList_mem hf hfm) k fun p hp =>
      W.mono ?_ (hσ p hp)).bind fun ts hts => Res.ok ⟨W.prod hts.1, hts.2.2.2.1⟩
    have := pdDepth_mem as f hfm
    simp only [pdDepth]; omega
  | _ => exact nomatch hf

theorem inst_shape (W : Forms S d P ext total) (σ : List (String × E)) (k : Nat) (τ : Ty) (F : E)
    (hF : shapeOK d τ F = true) (hσ : ∀ p ∈ σ, P (k + pdDepth F) p.2) :
    Res total (fun t => Shaped (P k) d τ t ∧ ∀ i j, den S t i j = den (bindS S σ) F i j)
      (inst d σ F) := by
  rcases (shapeOK_iff d τ F).mp hF with ⟨hFS, hτ⟩ | ⟨fs, rfl, hl, hfs, hτ⟩
  · exact (inst_forms W σ F hFS k hσ).mono fun t ht => ⟨Or.inl ⟨ht.1, hτ⟩, ht.2⟩
  · simp only [inst]
    refine (instList_forms σ k fs fun f hfm => inst_forms W σ f (hfs f hfm) k fun p hp =>
      W.mono ?_ (hσ p hp)).bind fun ts hts => Res.ok
        ⟨Or.inr ⟨ts, rfl, by rw [hts.2.1, hl], hts.1, hτ⟩, fun i j => by simp only [den, hts.2.2.2.2]⟩
    have := pdDepth_mem fs f hfm
    simp only [pdDepth]; omega

end

end Sympde.Lower

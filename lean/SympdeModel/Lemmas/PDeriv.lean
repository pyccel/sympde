/-
  What the coordinate operators rest on: the side condition `NonDeg` under which negative integer
  powers denote inverses, soundness of the model of `sympy.diff` on the elementary fragment `Elem`,
  and the canonical form `canonD` that a chain of logical derivatives denotes, whatever its order.
-/
import SympdeModel.Sem.Den
import SympdeModel.Lemmas.ExprInd
namespace Sympde
open E PD

variable {K : Type} [CommRing K] [Algebra ℚ K]

theorem bind_ok {ε α β : Type} {x : Except ε α} {f : α → Except ε β} {r : β}
    (h : (x >>= f) = .ok r) : ∃ a, x = .ok a ∧ f a = .ok r := by
  cases x with
  | error e => cases h
  | ok a => exact ⟨a, rfl, h⟩

/-! ### side conditions: bases of negative literal powers are invertible at the `inv` of the structure -/

mutual
def NonDeg (S : DRing K) : E → Prop
  | pow b e =>
      (match intLit e with
        | some (Int.negSucc _) => ∀ i j, den S b i j * S.inv (den S b i j) = 1
        | _ => True) ∧ NonDeg S b ∧ NonDeg S e
  | add as => NonDegList S as
  | mul as => NonDegList S as
  | fn _ a => NonDeg S a
  | pd _ a => NonDeg S a
  | idx b _ => NonDeg S b
  | mat _ _ es => NonDegList S es
  | tup as => NonDegList S as
  | op1 _ a => NonDeg S a
  | op2 _ a b => NonDeg S a ∧ NonDeg S b
  | other _ as => NonDegList S as
  | _ => True
def NonDegList (S : DRing K) : List E → Prop
  | [] => True
  | a :: as => NonDeg S a ∧ NonDegList S as
end

theorem NonDegList_mem (S : DRing K) (as : List E) (h : NonDegList S as) (a : E) (ha : a ∈ as) :
    NonDeg S a := by
  induction as with
  | nil => cases ha
  | cons x xs ih =>
    simp only [NonDegList] at h
    rcases List.mem_cons.mp ha with rfl | ha
    · exact h.1
    · exact ih h.2 ha

theorem NonDegList_of_mem (S : DRing K) (as : List E) (h : ∀ a ∈ as, NonDeg S a) :
    NonDegList S as := by
  induction as with
  | nil => trivial
  | cons a as ih => exact ⟨h a (by simp), ih (fun x hx => h x (by simp [hx]))⟩

/-- the derivative table of the elementary functions used by the model of `sympy.diff` -/
structure FnTable (S : DRing K) : Prop where
  sin : ∀ x, S.fn' "sin" x = S.fn "cos" x
  cos : ∀ x, S.fn' "cos" x = - S.fn "sin" x
  exp : ∀ x, S.fn' "exp" x = S.fn "exp" x
  log : ∀ x, S.fn' "log" x = S.inv x
  sinh : ∀ x, S.fn' "sinh" x = S.fn "cosh" x
  cosh : ∀ x, S.fn' "cosh" x = S.fn "sinh" x
  tan : ∀ x, S.fn' "tan" x = 1 + S.fn "tan" x ^ 2

def knownFn (f : String) : Bool :=
  f == "sin" || f == "cos" || f == "exp" || f == "log" || f == "sinh" || f == "cosh" || f == "tan"

theorem den_num (S : DRing K) (p : Int) (q i j : Nat) :
    den S (num p q) i j = algebraMap ℚ K ((p : ℚ) / (q : ℚ)) := by simp [den]

theorem den_zero (S : DRing K) (i j : Nat) : den S zero i j = 0 := by
  simp [zero, den]

theorem den_one (S : DRing K) (i j : Nat) : den S one i j = 1 := by
  simp [one, den]

theorem den_int (S : DRing K) (n : Int) (i j : Nat) : den S (num n 1) i j = (n : K) := by
  simp [den]

theorem denSum_map (S : DRing K) (as : List E) (i j : Nat) :
    denSum S as i j = (as.map (fun a => den S a i j)).sum := by
  induction as with
  | nil => simp [denSum]
  | cons a as ih => simp [denSum, ih]

theorem denProd_map (S : DRing K) (as : List E) (i j : Nat) :
    denProd S as i j = (as.map (fun a => den S a i j)).prod := by
  induction as with
  | nil => simp [denProd]
  | cons a as ih => simp [denProd, ih]

theorem denNth_getD (S : DRing K) (es : List E) (k : Nat) : denNth S es k = den S (es.getD k zero) 0 0 := by
  induction es generalizing k with
  | nil => simp only [denNth, List.getD_nil, den_zero]
  | cons a as ih =>
    cases k with
    | zero => simp only [denNth, List.getD_cons_zero]
    | succ k => simp only [denNth, List.getD_cons_succ, ih]

theorem den_mulOf (S : DRing K) (as : List E) (i j : Nat) :
    den S (mulOf as) i j = denProd S as i j := by
  match as with
  | [] => simp [mulOf, denProd, den_one]
  | [a] => simp [mulOf, denProd]
  | a :: b :: rest => simp [mulOf, den]

/-! ### powers -/

theorem D_powSem_int (S : DRing K) (c : Coord) (b : K) (e : E) (ev : K) (n : Int)
    (he : intLit e = some n)
    (hinv : ∀ m, n = Int.negSucc m → b * S.inv b = 1) :
    S.D c (powSem S b e ev)
      = (n : K) * powSem S b (num (n - 1) 1) 0 * S.D c b := by
  unfold powSem
  rw [he]
  have hl : intLit (num (n - 1) 1) = some (n - 1) := by simp [intLit]
  rw [hl]
  match n, hinv with
  | Int.ofNat 0, _ =>
    simp only [pow_zero, S.D_one]
    simp
  | Int.ofNat (k + 1), _ =>
    have : (Int.ofNat (k + 1) - 1 : Int) = Int.ofNat k := by simp
    rw [this]
    have hc : ((Int.ofNat (k + 1) : Int) : K) = (k : K) + 1 := by
      rw [Int.ofNat_eq_natCast]; push_cast; ring
    rw [hc]
    simp only [S.D_pow]
  | Int.negSucc m, hinv =>
    have hu := hinv m rfl
    have : (Int.negSucc m - 1 : Int) = Int.negSucc (m + 1) := by omega
    rw [this]
    simp only
    rw [S.D_pow, S.D_inv_of_mul_eq_one c b (S.inv b) hu]
    have hc : ((Int.negSucc m : Int) : K) = - ((m : K) + 1) := by
      rw [Int.negSucc_eq]; push_cast; ring
    rw [hc]
    ring

theorem powSem_of_none (S : DRing K) (x y : K) (e : E) (he : intLit e = none) :
    powSem S x e y = S.rpow x y := by
  unfold powSem; rw [he]

theorem powSem_int (S : DRing K) (b : K) (e : E) (ev ev' : K) (n : Int) (he : intLit e = some n) :
    powSem S b e ev = powSem S b e ev' := by
  unfold powSem; rw [he]; cases n <;> rfl

theorem intLit_num (n : Int) : intLit (num n 1) = some n := by simp [intLit]

theorem powSem_neg_one (S : DRing K) (x y : K) : powSem S x (num (-1) 1) y = S.inv x := by
  unfold powSem
  have : intLit (num (-1) 1) = some (Int.negSucc 0) := rfl
  rw [this]
  simp

theorem powSem_two (S : DRing K) (x y : K) : powSem S x (num 2 1) y = x ^ 2 := by
  unfold powSem
  have : intLit (num 2 1) = some (Int.ofNat 2) := rfl
  rw [this]

theorem powRule_sound (S : DRing K) (c : Coord) (b e db de : E) (i j : Nat)
    (hb : den S db i j = S.D c (den S b i j)) (he : den S de i j = S.D c (den S e i j))
    (hnd : match intLit e with
        | some (Int.negSucc _) => den S b i j * S.inv (den S b i j) = 1
        | _ => True) :
    den S (powRule b e db de) i j = S.D c (den S (pow b e) i j) := by
  unfold powRule
  cases hl : intLit e with
  | some n =>
    simp only [den, denProd]
    rw [D_powSem_int S c (den S b i j) e (den S e i j) n hl, hb]
    · have hn : algebraMap ℚ K ((n : ℚ) / ((1 : ℕ) : ℚ)) = (n : K) := by simp
      rw [hn, powSem_int S _ _ _ 0 (n - 1) (intLit_num _)]
      ring
    · intro m hm
      rw [hl, hm] at hnd
      exact hnd
  | none =>
    simp only [den, denProd, denSum]
    rw [powSem_of_none S _ _ e hl, S.D_rpow, hb, he, powSem_neg_one]
    ring

theorem prodRule_sound (S : DRing K) (c : Coord) (i j : Nat) (l : List (E × E))
    (h : ∀ p ∈ l, den S p.2 i j = S.D c (den S p.1 i j)) :
    den S (prodRule l) i j = S.D c (denProd S (l.map (·.1)) i j) := by
  induction l with
  | nil => simp [prodRule, denProd, den_zero, S.D_one]
  | cons p rest ih =>
    have hp := h p (by simp)
    have ih' := ih (fun q hq => h q (by simp [hq]))
    cases rest with
    | nil =>
      obtain ⟨a, da⟩ := p
      simp only [prodRule, List.map, denProd, mul_one]
      exact hp
    | cons q rest' =>
      obtain ⟨a, da⟩ := p
      have e1 : prodRule ((a, da) :: q :: rest')
          = add [mul [a, prodRule (q :: rest')], mul [da, mulOf ((q :: rest').map (·.1))]] := rfl
      rw [e1]
      simp only [den, denSum, denProd]
      rw [ih', den_mulOf, hp]
      have e2 : denProd S (List.map (fun x => x.1) ((a, da) :: q :: rest')) i j
          = den S a i j * denProd S (List.map (fun x => x.1) (q :: rest')) i j := rfl
      rw [e2, S.D_mul]
      ring

theorem zip_map_fst {α β : Type} (as : List α) (bs : List β) (h : as.length = bs.length) :
    (as.zip bs).map (·.1) = as :=
  List.map_fst_zip (Nat.le_of_eq h)

theorem sdiffList_eq (c : Coord) (as : List E) : sdiffList c as = as.map (PD.sdiff c) := by
  induction as with
  | nil => rfl
  | cons a as ih => rw [sdiffList, ih, List.map_cons]

theorem sdiffList_length (c : Coord) (as : List E) : (sdiffList c as).length = as.length := by
  rw [sdiffList_eq, List.length_map]

theorem mem_zip_map {α β : Type} (f : α → β) (as : List α) (p : α × β) (h : p ∈ as.zip (as.map f)) :
    p.1 ∈ as ∧ p.2 = f p.1 := by
  induction as with
  | nil => simp at h
  | cons a as ih =>
    simp only [List.map, List.zip_cons_cons, List.mem_cons] at h
    rcases h with rfl | h
    · simp
    · have := ih h
      exact ⟨List.mem_cons_of_mem _ this.1, this.2⟩

mutual
/-- the function-free elementary fragment on which the model of `sympy.diff` is defined -/
def Elem : E → Bool
  | num _ _ => true
  | cst _ => true
  | sym _ => true
  | add as => ElemList as
  | mul as => ElemList as
  | pow b e => Elem b && Elem e
  | fn f a => knownFn f && Elem a
  | _ => false
def ElemList : List E → Bool
  | [] => true
  | a :: as => Elem a && ElemList as
end

theorem ElemList_iff (as : List E) : ElemList as = as.all Elem := by
  induction as with
  | nil => simp [ElemList]
  | cons a as ih => simp [ElemList, ih]

theorem den_fnDeriv (S : DRing K) (T : FnTable S) (f : String) (a : E) (i j : Nat)
    (hf : knownFn f = true) : den S (fnDeriv f a) i j = S.fn' f (den S a i j) := by
  unfold knownFn at hf
  simp only [Bool.or_eq_true, beq_iff_eq] at hf
  rcases hf with (((((rfl | rfl) | rfl) | rfl) | rfl) | rfl) | rfl
  · simp only [fnDeriv, den, T.sin]
  · simp only [fnDeriv, den, denProd, T.cos]
    simp
  · simp only [fnDeriv, den, T.exp]
  · simp only [fnDeriv, den, T.log, powSem_neg_one]
  · simp only [fnDeriv, den, T.sinh]
  · simp only [fnDeriv, den, T.cosh]
  · simp only [fnDeriv, den, denSum, T.tan, powSem_two, den_one, add_zero]

theorem den_sum_map_D (S : DRing K) (c : Coord) (f : E → E) (as : List E) (i j : Nat)
    (h : ∀ a ∈ as, den S (f a) i j = S.D c (den S a i j)) :
    denSum S (as.map f) i j = S.D c (denSum S as i j) := by
  induction as with
  | nil => exact (S.D_zero c).symm
  | cons a as ih =>
    rw [List.map_cons, denSum, denSum, S.D_add, h a (by simp), ih (fun x hx => h x (by simp [hx]))]

theorem D_denSum_zero (S : DRing K) (c : Coord) (as : List E) (i j : Nat)
    (h : ∀ a ∈ as, S.D c (den S a i j) = 0) : S.D c (denSum S as i j) = 0 := by
  induction as with
  | nil => exact S.D_zero c
  | cons a as ih =>
    rw [denSum, S.D_add, h a (by simp), ih (fun x hx => h x (by simp [hx])), add_zero]

theorem D_denProd_zero (S : DRing K) (c : Coord) (as : List E) (i j : Nat)
    (h : ∀ a ∈ as, S.D c (den S a i j) = 0) : S.D c (denProd S as i j) = 0 := by
  induction as with
  | nil => exact S.D_one c
  | cons a as ih =>
    rw [denProd, S.D_mul, h a (by simp), ih (fun x hx => h x (by simp [hx])), mul_zero, zero_mul,
      add_zero]

theorem NonDeg_pow (S : DRing K) (b e : E) (h : NonDeg S (pow b e)) (i j : Nat) (n : Int)
    (he : intLit e = some n) (m : Nat) (hm : n = Int.negSucc m) :
    den S b i j * S.inv (den S b i j) = 1 := by
  have := h.1
  rw [he, hm] at this
  exact this i j

theorem sdiff_sound (S : DRing K) (T : FnTable S) (c : Coord) (e : E) (he : Elem e = true)
    (hnd : NonDeg S e) : ∀ i j, den S (PD.sdiff c e) i j = S.D c (den S e i j) := by
  intro i j
  induction e using E.induction with
  | num p q => rw [PD.sdiff, den_zero, den, S.D_rat]
  | cst s => rw [PD.sdiff, den_zero, den, S.D_cst]
  | sym s =>
    simp only [PD.sdiff, den, S.D_sym, beq_iff_eq]
    split
    · exact den_one S i j
    · exact den_zero S i j
  | add as ih =>
    rw [Elem, ElemList_iff, List.all_eq_true] at he
    rw [PD.sdiff, den, den, sdiffList_eq]
    exact den_sum_map_D S c _ as i j fun a ha => ih a ha (he a ha) (NonDegList_mem S as hnd a ha)
  | mul as ih =>
    rw [Elem, ElemList_iff, List.all_eq_true] at he
    rw [PD.sdiff, sdiffList_eq, den, prodRule_sound S c i j, zip_map_fst _ _ (by simp)]
    intro p hp
    obtain ⟨hmem, hp2⟩ := mem_zip_map (PD.sdiff c) as p hp
    rw [hp2]
    exact ih p.1 hmem (he _ hmem) (NonDegList_mem S as hnd _ hmem)
  | pow b e ihb ihe =>
    simp only [Elem, Bool.and_eq_true] at he
    rw [PD.sdiff]
    apply powRule_sound S c b e _ _ i j (ihb he.1 hnd.2.1) (ihe he.2 hnd.2.2)
    split
    · rename_i m hm
      exact NonDeg_pow S b e hnd i j _ hm m rfl
    · trivial
  | fn f a iha =>
    simp only [Elem, Bool.and_eq_true] at he
    simp only [PD.sdiff, den, denProd, S.D_fn, mul_one]
    rw [den_fnDeriv S T f a i j he.1, iha he.2 hnd]
  | _ => cases he

/-! ### numbers have zero derivative -/

theorem allNumber_iff (as : List E) : allNumber as = as.all isNumber := by
  induction as with
  | nil => rfl
  | cons a as ih => simp [allNumber, ih]

theorem D_isNumber (S : DRing K) (c : Coord) (e : E) (hn : isNumber e = true) (hnd : NonDeg S e) :
    ∀ i j, S.D c (den S e i j) = 0 := by
  intro i j
  induction e using E.induction with
  | num p q => rw [den, S.D_rat]
  | cst s => rw [den, S.D_cst]
  | add as ih =>
    rw [isNumber, allNumber_iff, List.all_eq_true] at hn
    rw [den]
    exact D_denSum_zero S c as i j fun a ha => ih a ha (hn a ha) (NonDegList_mem S as hnd a ha)
  | mul as ih =>
    rw [isNumber, allNumber_iff, List.all_eq_true] at hn
    rw [den]
    exact D_denProd_zero S c as i j fun a ha => ih a ha (hn a ha) (NonDegList_mem S as hnd a ha)
  | pow b e ihb ihe =>
    simp only [isNumber, Bool.and_eq_true] at hn
    rw [den]
    cases hl : intLit e with
    | some n =>
      rw [D_powSem_int S c _ e _ n hl (fun m hm => NonDeg_pow S b e hnd i j n hl m hm),
        ihb hn.1 hnd.2.1, mul_zero]
    | none =>
      rw [powSem_of_none S _ _ e hl, S.D_rpow, ihb hn.1 hnd.2.1, ihe hn.2 hnd.2.2]
      simp
  | fn f a iha =>
    rw [den, S.D_fn, iha hn hnd, mul_zero]
  | _ => cases hn

theorem D_isCoef (S : DRing K) (c : Coord) (e : E) (h : isCoef e = true) (i j : Nat) :
    S.D c (den S e i j) = 0 := by
  cases e with
  | num p q => rw [den, S.D_rat]
  | cst s => rw [den, S.D_cst]
  | _ => cases h

/-! ### re-ordering of logical derivative chains -/

def iterD (S : DRing K) (c : Coord) : Nat → K → K
  | 0, x => x
  | n + 1, x => S.D c (iterD S c n x)

theorem den_iter (S : DRing K) (c : Coord) (n : Nat) (a : E) (i j : Nat) :
    den S (iter n (pd c) a) i j = iterD S c n (den S a i j) := by
  induction n with
  | zero => rfl
  | succ n ih => rw [iter, den, ih, iterD]

theorem D_iterD_comm (S : DRing K) (c c' : Coord) (n : Nat) (x : K) :
    S.D c (iterD S c' n x) = iterD S c' n (S.D c x) := by
  induction n with
  | zero => rfl
  | succ n ih => rw [iterD, S.D_comm, ih, iterD]

/-- the canonical form `D_x1^a D_x2^b D_x3^c` -/
def canonD (S : DRing K) (n1 n2 n3 : Nat) (x : K) : K :=
  iterD S .x1 n1 (iterD S .x2 n2 (iterD S .x3 n3 x))

theorem den_rebuildL (S : DRing K) (n1 n2 n3 : Nat) (a : E) (i j : Nat) :
    den S (rebuildL n1 n2 n3 a) i j = canonD S n1 n2 n3 (den S a i j) := by
  rw [rebuildL, den_iter, den_iter, den_iter, canonD]

def cnt (c : Coord) (cs : List Coord) : Nat := cs.count c

theorem cnt_cons (c c' : Coord) (cs : List Coord) :
    cnt c' (c :: cs) = cnt c' cs + if c = c' then 1 else 0 := by
  simp only [cnt, List.count_cons, beq_iff_eq]

theorem D_canonD (S : DRing K) (c : Coord) (hc : c.logical = true) (n1 n2 n3 : Nat) (x : K) :
    S.D c (canonD S n1 n2 n3 x)
      = canonD S (n1 + if c = .x1 then 1 else 0) (n2 + if c = .x2 then 1 else 0)
          (n3 + if c = .x3 then 1 else 0) x := by
  cases c with
  | x1 => rfl
  | x2 => exact D_iterD_comm S .x2 .x1 n1 _
  | x3 =>
    rw [canonD, D_iterD_comm, D_iterD_comm]
    rfl
  | _ => cases hc

/-- the leading chain of logical derivatives of an expression (`stripL` is what is below it) -/
def leadL : E → List Coord
  | pd c a => if c.logical then c :: leadL a else []
  | _ => []

theorem leadL_logical (e : E) : ∀ c ∈ leadL e, c.logical = true := by
  induction e using E.chain_induction with
  | pd c a ih =>
    rw [leadL]
    split
    · rename_i hc
      intro c' hc'
      rcases List.mem_cons.mp hc' with rfl | h
      · exact hc
      · exact ih c' h
    · intro c' hc'; cases hc'
  | atom e he =>
    cases e with
    | pd c a => exact absurd rfl (he c a)
    | _ => intro c hc; cases hc

/-- an expression denotes the canonical re-ordering of its leading chain of logical
    derivatives, applied to what is below the chain -/
theorem den_lead (S : DRing K) (e : E) (i j : Nat) :
    den S e i j = canonD S (cnt .x1 (leadL e)) (cnt .x2 (leadL e)) (cnt .x3 (leadL e))
      (den S (stripL e) i j) := by
  induction e using E.chain_induction with
  | pd c a ih =>
    rw [leadL, stripL]
    split
    · rename_i hc
      rw [den, ih, D_canonD S c hc, cnt_cons, cnt_cons, cnt_cons]
    · rfl
  | atom e he =>
    cases e with
    | pd c a => exact absurd rfl (he c a)
    | _ => rfl

theorem countL_decomp (c : Coord) (e : E) :
    countL c e = cnt c (leadL e) + countL c (stripL e) := by
  induction e using E.chain_induction with
  | pd c' a ih =>
    rw [leadL, stripL]
    split
    · simp only [countL, ih, cnt_cons, beq_iff_eq]
      omega
    · exact (Nat.zero_add _).symm
  | atom e he =>
    cases e with
    | pd c a => exact absurd rfl (he c a)
    | _ => exact (Nat.zero_add _).symm

/-- the operator applied to a chain, in terms of the leading chain: only how often each
    direction occurs in it matters -/
theorem reorderL_eq (c : Coord) (e : E) :
    reorderL c e =
      (let k (c' : Coord) : Nat := cnt c' (leadL e) + (if c = c' then 1 else 0)
       let r := rebuildL (k .x1) (k .x2) (k .x3) (stripL e)
       if c.logical then .ok r else .ok (pd c r)) := by
  have hk : ∀ c', countL c' e - countL c' (stripL e) = cnt c' (leadL e) := by
    intro c'; rw [countL_decomp c' e]; omega
  simp only [reorderL, hk, beq_iff_eq]

theorem reorderL_sound (S : DRing K) (c : Coord) (e r : E) (h : reorderL c e = .ok r) (i j : Nat) :
    den S r i j = S.D c (den S e i j) := by
  rw [reorderL_eq] at h
  rw [den_lead S e]
  simp only at h
  split at h
  · rename_i hl
    injection h with h
    rw [← h, den_rebuildL, D_canonD S c hl]
  · injection h with h
    rw [← h, den, den_rebuildL]
    cases c <;> first | rfl | (rename_i hl; exact absurd rfl hl)

/-! ### the supported fragment -/

mutual
/-- scalar expressions the operators accept (or refuse explicitly): numbers, constants,
    coordinates, functions, vector components, derivative chains, sums, products, powers,
    known elementary functions -/
def SuppS : E → Bool
  | num _ _ => true
  | cst _ => true
  | sym _ => true
  | sf _ _ => true
  | idx (vf _ _) _ => true
  | add as => SuppSList as
  | mul as => SuppSList as
  | pow b e => SuppS b && SuppS e
  | fn f a => knownFn f && SuppS a
  | pd _ a => SuppS a
  | _ => false
def SuppSList : List E → Bool
  | [] => true
  | a :: as => SuppS a && SuppSList as
end

theorem SuppSList_iff (as : List E) : SuppSList as = as.all SuppS := by
  induction as with
  | nil => simp [SuppSList]
  | cons a as ih => simp [SuppSList, ih]

theorem hasTList_iff (as : List E) : hasTList as = as.any hasT := by
  induction as with
  | nil => simp [hasTList]
  | cons a as ih => simp [hasTList, ih]

theorem Elem_of_SuppS (e : E) (hs : SuppS e = true) (hf : hasT e = false) : Elem e = true := by
  induction e using E.induction with
  | add as ih =>
    rw [SuppS, SuppSList_iff, List.all_eq_true] at hs
    rw [hasT, hasTList_iff, List.any_eq_false] at hf
    rw [Elem, ElemList_iff, List.all_eq_true]
    exact fun a ha => ih a ha (hs a ha) (Bool.eq_false_iff.mpr (hf a ha))
  | mul as ih =>
    rw [SuppS, SuppSList_iff, List.all_eq_true] at hs
    rw [hasT, hasTList_iff, List.any_eq_false] at hf
    rw [Elem, ElemList_iff, List.all_eq_true]
    exact fun a ha => ih a ha (hs a ha) (Bool.eq_false_iff.mpr (hf a ha))
  | pow b e ihb ihe =>
    simp only [SuppS, Bool.and_eq_true] at hs
    simp only [hasT, Bool.or_eq_false_iff] at hf
    simp only [Elem, Bool.and_eq_true]
    exact ⟨ihb hs.1 hf.1, ihe hs.2 hf.2⟩
  | fn f a iha =>
    simp only [SuppS, Bool.and_eq_true] at hs
    simp only [Elem, Bool.and_eq_true]
    exact ⟨hs.1, iha hs.2 hf⟩
  | num _ _ => rfl
  | cst _ => rfl
  | sym _ => rfl
  | sf _ _ => cases hf
  | pd _ _ _ => cases hf
  | idx b _ _ =>
    cases b with
    | vf _ _ => cases hf
    | _ => cases hs
  | _ => cases hs

theorem denProd_filter (S : DRing K) (p : E → Bool) (as : List E) (i j : Nat) :
    denProd S as i j = denProd S (as.filter p) i j * denProd S (as.filter (fun a => !p a)) i j := by
  induction as with
  | nil => simp [denProd]
  | cons a as ih =>
    simp only [denProd, List.filter]
    cases hp : p a <;> simp [denProd, ih] <;> ring

theorem D_denProd_coefs (S : DRing K) (c : Coord) (as : List E) (h : ∀ a ∈ as, isCoef a = true)
    (i j : Nat) : S.D c (denProd S as i j) = 0 :=
  D_denProd_zero S c as i j fun a ha => D_isCoef S c a (h a ha) i j

end Sympde

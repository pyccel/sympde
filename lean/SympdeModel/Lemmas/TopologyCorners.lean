/-
  `Domain.get_shared_corners` on 2D layouts in which no patch corner has both of its faces joined: a walk crosses
  at most one interface and stops, so each group is the pair of patch corners that meet at one end of one interface.
-/
import SympdeModel.Lemmas.TopologySub
namespace Sympde.Topo

/-! ### dictionaries keyed by faces -/

theorem dictGet_iff {ps : List Patch} (hn : NamesOk ps) {ν : Type} (l : List (Face × ν))
    (hk : (l.map (·.1)).Nodup) (hl : ∀ e ∈ l, e.1.patch ∈ ps) (f : Face) (hf : f.patch ∈ ps) (v : ν) :
    dictGet Face.same l f = some v ↔ (f, v) ∈ l := by
  unfold dictGet
  constructor
  · intro h
    cases hfind : l.find? (fun e => e.1.same f) with
    | none => rw [hfind] at h; cases h
    | some e =>
      rw [hfind] at h
      simp only [Option.map_some, Option.some.injEq] at h
      have hm := List.mem_of_find?_eq_some hfind
      have hs := List.find?_some hfind
      have := (same_iff_eq hn (hl e hm) hf).mp hs
      rw [← this, ← h]; exact hm
  · intro h
    rw [find?_unique (fun e : Face × ν => e.1.same f) l (f, v) h (same_refl f)]
    · rfl
    · intro y hy hs
      have e1 : y.1 = f := (same_iff_eq hn (hl y hy) hf).mp hs
      exact List.inj_on_of_nodup_map hk hy h e1

theorem dictGet_none {ps : List Patch} (hn : NamesOk ps) {ν : Type} (l : List (Face × ν))
    (hl : ∀ e ∈ l, e.1.patch ∈ ps) (f : Face) (hf : f.patch ∈ ps) :
    dictGet Face.same l f = none ↔ ∀ e ∈ l, e.1 ≠ f := by
  unfold dictGet
  rw [Option.map_eq_none_iff, List.find?_eq_none]
  constructor
  · intro h e he heq
    exact h e he (by rw [heq]; exact same_refl f)
  · intro h e he hs
    exact h e he ((same_iff_eq hn (hl e he) hf).mp hs)

/-- the two dictionaries of `get_shared_corners`, for interfaces whose sides are pairwise different -/
theorem cornerCtx_eq {ps : List Patch} (hn : NamesOk ps) (ifs : List Iface) (hnd : (ifaceSides ifs).Nodup)
    (hin : ∀ f ∈ ifaceSides ifs, f.patch ∈ ps) :
    (cornerCtx ifs).bnd = ifs.map (fun i => (i.minus, i.plus)) ++ ifs.map (fun i => (i.plus, i.minus)) ∧
    (cornerCtx ifs).dir = ifs.map (fun i => (i.plus, i.ornt)) ++ ifs.map (fun i => (i.minus, i.ornt)) := by
  have hperm := sides_perm ifs
  have hnd' : (ifs.map Iface.minus ++ ifs.map Iface.plus).Nodup := hperm.nodup_iff.mpr hnd
  have hin' : ∀ f ∈ ifs.map Iface.minus ++ ifs.map Iface.plus, f.patch ∈ ps := fun f hf => hin f (hperm.subset hf)
  have hpw := pairwise_not_same_of_nodup hn hin' hnd'
  have hpw2 : (ifs.map Iface.plus ++ ifs.map Iface.minus).Pairwise (fun a b => Face.same a b = false) :=
    pairwise_not_same_of_nodup hn (fun f hf => hin' f (List.perm_append_comm.subset hf))
      (List.perm_append_comm.nodup_iff.mp hnd')
  have hb1 : ifs.foldl (fun d i => dictSet Face.same d i.minus i.plus) [] = ifs.map (fun i => (i.minus, i.plus)) := by
    have := foldl_dictSet_fresh Face.same Iface.minus Iface.plus ifs [] (by
      simp only [List.map_nil, List.nil_append]; exact (List.pairwise_append.mp hpw).1)
    simpa using this
  have hd1 : ifs.foldl (fun d i => dictSet Face.same d i.plus i.ornt) [] = ifs.map (fun i => (i.plus, i.ornt)) := by
    have := foldl_dictSet_fresh Face.same Iface.plus Iface.ornt ifs [] (by
      simp only [List.map_nil, List.nil_append]; exact (List.pairwise_append.mp hpw).2.1)
    simpa using this
  unfold cornerCtx
  simp only [hb1, hd1]
  constructor
  · have := foldl_dictSet_fresh Face.same (fun e : Face × Face => e.2) (fun e => e.1)
      (ifs.map (fun i => (i.minus, i.plus))) (ifs.map (fun i => (i.minus, i.plus))) (by
        simp only [List.map_map]; exact hpw)
    rw [this]
    simp [List.map_map, Function.comp]
  · have := foldl_dictSet_fresh Face.same Iface.minus Iface.ornt ifs (ifs.map (fun i => (i.plus, i.ornt))) (by
      simp only [List.map_map]; exact hpw2)
    rw [this]

/-! ### crossing an interface -/

/-- the extra facts about a joined 2D domain used for the corner groups -/
structure WF2 (ps : List Patch) (d : Dom) : Prop extends WF ps d where
  dim2 : ∀ p ∈ ps, p.dim = 2
  axes : ∀ i ∈ d.ifaces, i.minus.axis = i.plus.axis
  orntPM : ∀ i ∈ d.ifaces, i.ornt = .o2 1 ∨ i.ornt = .o2 (-1)

/-- no patch corner has both of its faces joined -/
def NoDoubleCorner (d : Dom) : Prop :=
  ∀ f ∈ ifaceSides d.ifaces, ∀ g ∈ ifaceSides d.ifaces, f.patch = g.patch → f.axis = g.axis

instance (d : Dom) : Decidable (NoDoubleCorner d) := by unfold NoDoubleCorner; infer_instance

theorem NoDoubleCorner.adj_not_side {d : Dom} (h : NoDoubleCorner d) {f n : Face} (hf : f ∈ ifaceSides d.ifaces)
    (hp : n.patch = f.patch) (ha : n.axis ≠ f.axis) : n ∉ ifaceSides d.ifaces :=
  fun hn => ha (h n hn f hf hp)

namespace WF2
variable {ps : List Patch} {d : Dom} (w : WF2 ps d)
include w

/-- `sorted(interfaces)` as used by `get_shared_corners` -/
theorem sorted_sides_nodup : (ifaceSides (sortBy Iface.name d.ifaces)).Nodup := by
  have hp : (ifaceSides (sortBy Iface.name d.ifaces)).Perm (ifaceSides d.ifaces) :=
    (sortBy_perm Iface.name d.ifaces).flatMap_right _
  exact hp.nodup_iff.mpr w.toWF.sidesNodup

theorem sorted_sides_in : ∀ f ∈ ifaceSides (sortBy Iface.name d.ifaces), f.patch ∈ ps := by
  intro f hf
  have hp : (ifaceSides (sortBy Iface.name d.ifaces)).Perm (ifaceSides d.ifaces) :=
    (sortBy_perm Iface.name d.ifaces).flatMap_right _
  exact ((mem_allFaces ps f).mp (w.toWF.side_all (hp.subset hf))).1

theorem bnd_mem (f g : Face) :
    (f, g) ∈ (cornerCtx (sortBy Iface.name d.ifaces)).bnd ↔
      ∃ i ∈ d.ifaces, (f = i.minus ∧ g = i.plus) ∨ (f = i.plus ∧ g = i.minus) := by
  rw [(cornerCtx_eq w.names _ w.sorted_sides_nodup w.sorted_sides_in).1]
  simp only [List.mem_append, List.mem_map, Prod.mk.injEq]
  have hm : ∀ i, i ∈ sortBy Iface.name d.ifaces ↔ i ∈ d.ifaces := fun i => (sortBy_perm _ _).mem_iff
  constructor
  · rintro (⟨i, hi, rfl, rfl⟩ | ⟨i, hi, rfl, rfl⟩)
    · exact ⟨i, (hm i).mp hi, Or.inl ⟨rfl, rfl⟩⟩
    · exact ⟨i, (hm i).mp hi, Or.inr ⟨rfl, rfl⟩⟩
  · rintro ⟨i, hi, ⟨rfl, rfl⟩ | ⟨rfl, rfl⟩⟩
    · exact Or.inl ⟨i, (hm i).mpr hi, rfl, rfl⟩
    · exact Or.inr ⟨i, (hm i).mpr hi, rfl, rfl⟩

theorem bnd_keys_nodup : ((cornerCtx (sortBy Iface.name d.ifaces)).bnd.map (·.1)).Nodup := by
  rw [(cornerCtx_eq w.names _ w.sorted_sides_nodup w.sorted_sides_in).1]
  simp only [List.map_append, List.map_map]
  exact (sides_perm _).nodup_iff.mpr w.sorted_sides_nodup

theorem bnd_in : ∀ e ∈ (cornerCtx (sortBy Iface.name d.ifaces)).bnd, e.1.patch ∈ ps := by
  rintro ⟨f, g⟩ he
  obtain ⟨i, hi, ⟨rfl, _⟩ | ⟨rfl, _⟩⟩ := (w.bnd_mem f g).mp he
  · exact ((mem_allFaces ps _).mp (w.toWF.minus_all hi)).1
  · exact ((mem_allFaces ps _).mp (w.toWF.plus_all hi)).1

theorem across_some (f g : Face) (hf : f.patch ∈ ps) :
    (cornerCtx (sortBy Iface.name d.ifaces)).across f = some g ↔
      ∃ i ∈ d.ifaces, (f = i.minus ∧ g = i.plus) ∨ (f = i.plus ∧ g = i.minus) := by
  unfold CornerCtx.across
  rw [dictGet_iff w.names _ w.bnd_keys_nodup w.bnd_in f hf g]
  exact w.bnd_mem f g

theorem across_none (f : Face) (hf : f.patch ∈ ps) :
    (cornerCtx (sortBy Iface.name d.ifaces)).across f = none ↔ f ∉ ifaceSides d.ifaces := by
  unfold CornerCtx.across
  rw [dictGet_none w.names _ w.bnd_in f hf, mem_ifaceSides]
  constructor
  · rintro h ⟨i, hi, rfl | rfl⟩
    · exact h (i.minus, i.plus) ((w.bnd_mem _ _).mpr ⟨i, hi, Or.inl ⟨rfl, rfl⟩⟩) rfl
    · exact h (i.plus, i.minus) ((w.bnd_mem _ _).mpr ⟨i, hi, Or.inr ⟨rfl, rfl⟩⟩) rfl
  · rintro h ⟨a, b⟩ he rfl
    obtain ⟨i, hi, ⟨rfl, _⟩ | ⟨rfl, _⟩⟩ := (w.bnd_mem _ _).mp he
    · exact h ⟨i, hi, Or.inl rfl⟩
    · exact h ⟨i, hi, Or.inr rfl⟩

theorem ornt_of {i : Iface} (hi : i ∈ d.ifaces) :
    (cornerCtx (sortBy Iface.name d.ifaces)).ornt i.minus = i.ornt ∧
    (cornerCtx (sortBy Iface.name d.ifaces)).ornt i.plus = i.ornt := by
  have hdir := (cornerCtx_eq w.names _ w.sorted_sides_nodup w.sorted_sides_in).2
  have hm : i ∈ sortBy Iface.name d.ifaces := (sortBy_perm _ _).mem_iff.mpr hi
  have hkeys : ((cornerCtx (sortBy Iface.name d.ifaces)).dir.map (·.1)).Nodup := by
    rw [hdir]
    simp only [List.map_append, List.map_map]
    exact (List.perm_append_comm.trans (sides_perm _)).nodup_iff.mpr w.sorted_sides_nodup
  have hin : ∀ e ∈ (cornerCtx (sortBy Iface.name d.ifaces)).dir, e.1.patch ∈ ps := by
    rw [hdir]
    intro e he
    simp only [List.mem_append, List.mem_map] at he
    rcases he with ⟨j, hj, rfl⟩ | ⟨j, hj, rfl⟩
    · exact ((mem_allFaces ps _).mp (w.toWF.plus_all ((sortBy_perm _ _).subset hj))).1
    · exact ((mem_allFaces ps _).mp (w.toWF.minus_all ((sortBy_perm _ _).subset hj))).1
  unfold CornerCtx.ornt
  constructor
  · rw [(dictGet_iff w.names _ hkeys hin i.minus ((mem_allFaces ps _).mp (w.toWF.minus_all hi)).1 i.ornt).mpr
      (by rw [hdir]; simp only [List.mem_append, List.mem_map]; exact Or.inr ⟨i, hm, rfl⟩)]
    rfl
  · rw [(dictGet_iff w.names _ hkeys hin i.plus ((mem_allFaces ps _).mp (w.toWF.plus_all hi)).1 i.ornt).mpr
      (by rw [hdir]; simp only [List.mem_append, List.mem_map]; exact Or.inl ⟨i, hm, rfl⟩)]
    rfl

end WF2

/-! ### the group of a corner with exactly one joined face -/

theorem cornerGroup_simple (cx : CornerCtx) (fuel : Nat) (hf : 2 ≤ fuel) (c : Corner) (bd2 r : Face)
    (h1 : cx.across c.1 = some bd2) (h2 : cx.across c.2 = none)
    (hr : rotate (faceOn bd2.patch c.2.axis c.2.ext) (cx.ornt bd2) = .ok r) (h3 : cx.across r = none) :
    cornerGroup cx fuel c = .ok [(r, bd2), c] := by
  obtain ⟨f, rfl⟩ : ∃ f, fuel = f + 2 := ⟨fuel - 2, by omega⟩
  have hF : walkF cx (f + 2) c = .ok [] := by simp [walkF, stepF, h2]
  have hB : walkB cx (f + 2) c = .ok [(r, bd2)] := by
    simp [walkB, stepB, h1, hr, h3, bind, Except.bind, pure, Except.pure]
  simp [cornerGroup, h1, h2, hF, hB, bind, Except.bind]

theorem Corner.sameSet_refl (c : Corner) : c.sameSet c = true := by
  simp [Corner.sameSet, Corner.same, same_refl]

/-- the worklist loop when every group is found: the groups are those of popped corners, and every corner of the
    list is popped or removed because a group contains it -/
theorem cornerLoop_spec (cx : CornerCtx) (fuel : Nat) :
    ∀ (n : Nat) (work : List Corner), work.length < n →
      (∀ c ∈ work, ∃ g, cornerGroup cx fuel c = .ok g ∧ c ∈ g) →
      ∃ gs, cornerLoop cx fuel n work = .ok gs ∧ (∀ g ∈ gs, ∃ c ∈ work, cornerGroup cx fuel c = .ok g) ∧
        (∀ c ∈ work, ∃ g ∈ gs, ∃ c' ∈ g, c'.sameSet c = true) := by
  intro n
  induction n with
  | zero => intro work h; omega
  | succ n ih =>
    intro work hlen hw
    cases work with
    | nil => exact ⟨[], rfl, by simp, by simp⟩
    | cons c rest =>
      obtain ⟨g, hg, hcg⟩ := hw c (by simp)
      have hsub : ∀ x ∈ rest.filter (fun x => !(g.any (fun y => y.sameSet x))), x ∈ rest :=
        fun x hx => (List.mem_filter.mp hx).1
      obtain ⟨gs, h1, h2, h3⟩ := ih (rest.filter (fun x => !(g.any (fun y => y.sameSet x))))
        (by
          have := List.length_filter_le (fun x => !(g.any (fun y => y.sameSet x))) rest
          simp only [List.length_cons] at hlen; omega)
        (fun x hx => hw x (List.mem_cons_of_mem _ (hsub x hx)))
      refine ⟨g :: gs, by simp only [cornerLoop, hg, bind, Except.bind, h1], ?_, ?_⟩
      · intro g' hg'
        rcases List.mem_cons.mp hg' with rfl | hg'
        · exact ⟨c, by simp, hg⟩
        · obtain ⟨c', hc', e⟩ := h2 g' hg'
          exact ⟨c', List.mem_cons_of_mem _ (hsub c' hc'), e⟩
      · intro x hx
        rcases List.mem_cons.mp hx with rfl | hx
        · exact ⟨g, by simp, x, hcg, Corner.sameSet_refl x⟩
        · by_cases hfil : (g.any (fun y => y.sameSet x)) = true
          · obtain ⟨y, hy, hs⟩ := List.any_eq_true.mp hfil
            exact ⟨g, by simp, y, hy, hs⟩
          · obtain ⟨g', hg', c', hc', hs⟩ := h3 x (List.mem_filter.mpr ⟨hx, by simpa using hfil⟩)
            exact ⟨g', List.mem_cons_of_mem _ hg', c', hc', hs⟩

/-! ### the corner groups of a layout without doubly joined corners -/

def orntInt : Ornt → Int
  | .o2 o => o
  | _ => 1

/-- the corner of the minus patch at the end `e` of the interface, and the corner of the plus patch it meets -/
def cornerM (i : Iface) (e : Int) : Corner := (i.minus, faceOn i.minus.patch (1 - i.minus.axis) e)
def cornerP (i : Iface) (e : Int) : Corner :=
  (i.plus, faceOn i.plus.patch (1 - i.minus.axis) (e * orntInt i.ornt))

def Corner.swap (c : Corner) : Corner := (c.2, c.1)

/-- the group consists of exactly the two given corners (each up to the order of its two faces) -/
def IsPair (g : List Corner) (A B : Corner) : Prop :=
  ∃ x y, g = [x, y] ∧ ((x.sameSet A = true ∧ y.sameSet B = true) ∨ (x.sameSet B = true ∧ y.sameSet A = true))

theorem Corner.sameSet_swap (c : Corner) : c.swap.sameSet c = true := by
  simp [Corner.sameSet, Corner.same, Corner.swap, same_refl]

theorem sameSet_eq {ps : List Patch} (hn : NamesOk ps) {a b : Corner}
    (ha1 : a.1.patch ∈ ps) (ha2 : a.2.patch ∈ ps) (hb1 : b.1.patch ∈ ps) (hb2 : b.2.patch ∈ ps)
    (h : a.sameSet b = true) : a = b ∨ a = b.swap := by
  simp only [Corner.sameSet, Corner.same, Bool.or_eq_true, Bool.and_eq_true] at h
  rcases h with ⟨h1, h2⟩ | ⟨h1, h2⟩
  · left
    exact Prod.ext ((same_iff_eq hn ha1 hb1).mp h1) ((same_iff_eq hn ha2 hb2).mp h2)
  · right
    exact Prod.ext ((same_iff_eq hn ha1 hb2).mp h1) ((same_iff_eq hn ha2 hb1).mp h2)

theorem rotate_pm (p : Patch) (hp : p.dim = 2) (ax : Nat) (e : Int) (o : Ornt)
    (ho : o = .o2 1 ∨ o = .o2 (-1)) : rotate (faceOn p ax e) o = .ok (faceOn p ax (e * orntInt o)) := by
  rcases ho with rfl | rfl
  · simp [rotate, faceOn, hp, orntInt]
  · simp [rotate, faceOn, hp, orntInt]

theorem orntInt_sq (o : Ornt) (ho : o = .o2 1 ∨ o = .o2 (-1)) : orntInt o * orntInt o = 1 := by
  rcases ho with rfl | rfl <;> simp [orntInt]

theorem mem_adjacent (f n : Face) : n ∈ adjacent f ↔ n ∈ f.patch.faces ∧ n.axis ≠ f.axis := by
  simp [adjacent, List.mem_filter, mem_boundary]

/-- the group the algorithm builds from the corner `c` at the end `e` of the interface `i`: `c` is the corner of one
    of the two patches; the corner of the other patch, reached through the first face of `c`, is put in front of it
    with its faces in the other order -/
def GroupOf (i : Iface) (e : Int) (c : Corner) (g : List Corner) : Prop :=
  (c = cornerM i e ∧ g = [(cornerP i e).swap, c]) ∨ (c = cornerP i e ∧ g = [(cornerM i e).swap, c])

namespace GroupOf
variable {i : Iface} {e : Int} {c : Corner} {g : List Corner} (h : GroupOf i e c g)
include h

theorem mem_self : c ∈ g := by
  rcases h with ⟨_, rfl⟩ | ⟨_, rfl⟩
  · simp
  · simp

theorem isPair : IsPair g (cornerM i e) (cornerP i e) := by
  rcases h with ⟨rfl, rfl⟩ | ⟨rfl, rfl⟩
  · exact ⟨_, _, rfl, Or.inr ⟨Corner.sameSet_swap _, Corner.sameSet_refl _⟩⟩
  · exact ⟨_, _, rfl, Or.inl ⟨Corner.sameSet_swap _, Corner.sameSet_refl _⟩⟩

theorem mem {c' : Corner} (hc' : c' ∈ g) :
    ∃ X, (X = cornerM i e ∨ X = cornerP i e) ∧ (c' = X ∨ c' = X.swap) := by
  rcases h with ⟨rfl, rfl⟩ | ⟨rfl, rfl⟩
  · rcases List.mem_pair.mp hc' with rfl | rfl
    · exact ⟨_, Or.inr rfl, Or.inr rfl⟩
    · exact ⟨_, Or.inl rfl, Or.inl rfl⟩
  · rcases List.mem_pair.mp hc' with rfl | rfl
    · exact ⟨_, Or.inl rfl, Or.inr rfl⟩
    · exact ⟨_, Or.inr rfl, Or.inl rfl⟩

end GroupOf

namespace WF2
variable {ps : List Patch} {d : Dom} (w : WF2 ps d)
include w

theorem minus_ps {i : Iface} (hi : i ∈ d.ifaces) : i.minus.patch ∈ ps :=
  ((mem_allFaces ps _).mp (w.toWF.minus_all hi)).1
theorem plus_ps {i : Iface} (hi : i ∈ d.ifaces) : i.plus.patch ∈ ps :=
  ((mem_allFaces ps _).mp (w.toWF.plus_all hi)).1

theorem axis_lt {i : Iface} (hi : i ∈ d.ifaces) : i.minus.axis < 2 := by
  have := ((mem_allFaces ps _).mp (w.toWF.minus_all hi)).2.1
  rwa [w.dim2 _ (w.minus_ps hi)] at this

/-- the group of a corner `(b, n)` of a joined face `b` and a face `n` next to it: the corner itself and, across
    the interface `i` whose other side is `b'`, the corner of `b'` with the rotated copy of `n` -/
theorem group_of_joined (hndc : NoDoubleCorner d) (fuel : Nat) (hfuel : 2 ≤ fuel) {i : Iface} (hi : i ∈ d.ifaces)
    {b b' n : Face} (hb : (b = i.minus ∧ b' = i.plus) ∨ (b = i.plus ∧ b' = i.minus)) (hn : n ∈ adjacent b) :
    cornerGroup (cornerCtx (sortBy Iface.name d.ifaces)) fuel (b, n) =
      .ok [(faceOn b'.patch n.axis (n.ext * orntInt i.ornt), b'), (b, n)] := by
  obtain ⟨hnf, hna⟩ := (mem_adjacent b n).mp hn
  -- both sides are interface sides on patches of `ps`, with a common axis
  have hs : b ∈ ifaceSides d.ifaces ∧ b' ∈ ifaceSides d.ifaces ∧ b.axis = b'.axis ∧
      (cornerCtx (sortBy Iface.name d.ifaces)).ornt b' = i.ornt := by
    rcases hb with ⟨rfl, rfl⟩ | ⟨rfl, rfl⟩
    · exact ⟨minus_side hi, plus_side hi, w.axes i hi, (w.ornt_of hi).2⟩
    · exact ⟨plus_side hi, minus_side hi, (w.axes i hi).symm, (w.ornt_of hi).1⟩
  have hbp := ((mem_allFaces ps _).mp (w.toWF.side_all hs.1)).1
  have hb'p := ((mem_allFaces ps _).mp (w.toWF.side_all hs.2.1)).1
  refine cornerGroup_simple _ fuel hfuel (b, n) b' (faceOn b'.patch n.axis (n.ext * orntInt i.ornt))
    ((w.across_some _ _ hbp).mpr ⟨i, hi, hb⟩)
    ((w.across_none _ (((mem_faces _ _).mp hnf).1 ▸ hbp)).mpr
      (hndc.adj_not_side hs.1 ((mem_faces _ _).mp hnf).1 hna)) ?_
    ((w.across_none (faceOn b'.patch n.axis (n.ext * orntInt i.ornt)) hb'p).mpr
      (hndc.adj_not_side hs.2.1 rfl fun h => hna (h.trans hs.2.2.1.symm)))
  rw [hs.2.2.2]
  exact rotate_pm _ (w.dim2 _ hb'p) _ _ _ (w.orntPM i hi)

theorem work_facts (hndc : NoDoubleCorner d) (fuel : Nat) (hfuel : 2 ≤ fuel) (c : Corner)
    (h1 : c.1 ∈ ifaceSides d.ifaces) (h2 : c.2 ∈ adjacent c.1) :
    ∃ i ∈ d.ifaces, ∃ e, (e = 1 ∨ e = -1) ∧ ∃ g,
      cornerGroup (cornerCtx (sortBy Iface.name d.ifaces)) fuel c = .ok g ∧ GroupOf i e c g := by
  obtain ⟨b, n⟩ := c
  obtain ⟨i, hi, hb⟩ := (mem_ifaceSides _ _).mp h1
  obtain ⟨hnf, hna⟩ := (mem_adjacent b n).mp h2
  have hnf' := (mem_faces _ _).mp hnf
  have hax := w.axis_lt hi
  have hoo := w.orntPM i hi
  -- `n` is the face of the patch of `b` along the other axis
  have hn_eq : b.patch.dim = 2 → b.axis = i.minus.axis → n = faceOn b.patch (1 - i.minus.axis) n.ext := by
    intro hdim hba
    cases n
    simp only [faceOn, Face.mk.injEq, and_true]
    exact ⟨hnf'.1, by have := hnf'.2.1; simp only at hna this; omega⟩
  rcases hb with rfl | rfl
  · have hg := w.group_of_joined hndc fuel hfuel hi (Or.inl ⟨rfl, rfl⟩) h2
    have hn := hn_eq (w.dim2 _ (w.minus_ps hi)) rfl
    refine ⟨i, hi, n.ext, by rcases hnf'.2.2 with h | h <;> simp [h], _, hg, Or.inl ⟨?_, ?_⟩⟩
    · rw [cornerM, ← hn]
    · rw [cornerP, Corner.swap, hn]; rfl
  · have hg := w.group_of_joined hndc fuel hfuel hi (Or.inr ⟨rfl, rfl⟩) h2
    have hn := hn_eq (w.dim2 _ (w.plus_ps hi)) (w.axes i hi).symm
    have hext : n.ext = n.ext * orntInt i.ornt * orntInt i.ornt := by
      rw [Int.mul_assoc, orntInt_sq i.ornt hoo, Int.mul_one]
    refine ⟨i, hi, n.ext * orntInt i.ornt, ?_, _, hg, Or.inr ⟨?_, ?_⟩⟩
    · rcases hnf'.2.2 with h | h <;> rcases hoo with h' | h' <;> simp [h, h', orntInt]
    · rw [cornerP, ← hext, ← hn]
    · rw [cornerM, Corner.swap, hn]; rfl

theorem cornerM_ps {i : Iface} (hi : i ∈ d.ifaces) (e : Int) :
    (cornerM i e).1.patch ∈ ps ∧ (cornerM i e).2.patch ∈ ps := ⟨w.minus_ps hi, w.minus_ps hi⟩
theorem cornerP_ps {i : Iface} (hi : i ∈ d.ifaces) (e : Int) :
    (cornerP i e).1.patch ∈ ps ∧ (cornerP i e).2.patch ∈ ps := ⟨w.plus_ps hi, w.plus_ps hi⟩

theorem cornerM_snd_not_side (hndc : NoDoubleCorner d) {i : Iface} (hi : i ∈ d.ifaces) (e : Int) :
    (cornerM i e).2 ∉ ifaceSides d.ifaces := by
  have := w.axis_lt hi
  refine hndc.adj_not_side (f := i.minus) (minus_side hi) rfl ?_
  simp only [cornerM, faceOn]; omega

theorem cornerP_snd_not_side (hndc : NoDoubleCorner d) {i : Iface} (hi : i ∈ d.ifaces) (e : Int) :
    (cornerP i e).2 ∉ ifaceSides d.ifaces := by
  have := w.axis_lt hi
  refine hndc.adj_not_side (f := i.plus) (plus_side hi) rfl ?_
  simp only [cornerP, faceOn]; rw [← w.axes i hi]; omega

/-- a group that contains, up to the order of its faces, the minus corner at the end `e` of the interface `i` is the
    group of that end of that interface: the first face of every member is a side of the interface, the second is not
    a side of any, and a face is a side of one interface only -/
theorem group_unique (hndc : NoDoubleCorner d) {i j : Iface} (hi : i ∈ d.ifaces) (hj : j ∈ d.ifaces) {e e' : Int}
    {c c' : Corner} {g : List Corner} (hg : GroupOf j e' c g) (hc' : c' ∈ g)
    (hs : c'.sameSet (cornerM i e) = true) : j = i ∧ e' = e := by
  obtain ⟨X, hX, hcX⟩ := hg.mem hc'
  have hXps : X.1.patch ∈ ps ∧ X.2.patch ∈ ps := by
    rcases hX with rfl | rfl
    · exact w.cornerM_ps hj e'
    · exact w.cornerP_ps hj e'
  have hM := w.cornerM_ps hi e
  have h : X = cornerM i e ∨ X = (cornerM i e).swap := by
    rcases hcX with rfl | rfl
    · exact sameSet_eq w.names hXps.1 hXps.2 hM.1 hM.2 hs
    · rcases sameSet_eq w.names hXps.2 hXps.1 hM.1 hM.2 hs with h | h
      · exact Or.inr (congrArg Corner.swap h)
      · exact Or.inl (congrArg Corner.swap h)
  have n1 := w.cornerM_snd_not_side hndc hi e
  rcases hX with rfl | rfl
  · rcases h with h | h
    · have h1 : j.minus = i.minus := congrArg Prod.fst h
      cases (w.toWF.side_unique hj hi).1 h1
      have h2 := congrArg Prod.snd h
      simp only [cornerM, faceOn, Face.mk.injEq] at h2
      exact ⟨rfl, h2.2.2⟩
    · have h1 : j.minus = (cornerM i e).2 := congrArg Prod.fst h
      exact absurd (h1 ▸ minus_side hj) n1
  · rcases h with h | h
    · have h1 : j.plus = i.minus := congrArg Prod.fst h
      exact absurd h1.symm (w.toWF.side_unique hi hj).2.2
    · have h1 : j.plus = (cornerM i e).2 := congrArg Prod.fst h
      exact absurd (h1 ▸ plus_side hj) n1

end WF2

/-- the work list of `get_shared_corners`: every joined face with every face next to it, each corner once -/
def workList (d : Dom) : List Corner :=
  dedupBy Corner.sameSet ((cornerCtx (sortBy Iface.name d.ifaces)).bnd.flatMap
    (fun e => (adjacent e.1).map (fun n => (e.1, n))))

namespace WF2
variable {ps : List Patch} {d : Dom} (w : WF2 ps d)
include w

theorem corners_eq (hne : d.ifaces ≠ []) :
    d.toDomCore.corners = cornerLoop (cornerCtx (sortBy Iface.name d.ifaces)) (8 * d.interiors.length + 2)
      ((workList d).length + 1) (workList d) := by
  obtain ⟨p0, rest0, hints⟩ := List.exists_cons_of_ne_nil
    (List.ne_nil_of_length_pos (w.ints.length_eq ▸ Nat.lt_of_lt_of_le Nat.zero_lt_two w.len))
  have hp0 : p0.dim = 2 := w.dim2 p0 (w.ints.subset (by rw [hints]; simp))
  obtain ⟨i0, is, hifs⟩ := List.exists_cons_of_ne_nil hne
  simp only [DomCore.corners, hints, hp0, hifs, bne_self_eq_false, Bool.false_eq_true, if_false, List.isEmpty_cons,
    workList]

theorem mem_workList (hndc : NoDoubleCorner d) (c : Corner) :
    c ∈ workList d ↔ c.1 ∈ ifaceSides d.ifaces ∧ c.2 ∈ adjacent c.1 := by
  have hL : ∀ c, c ∈ (cornerCtx (sortBy Iface.name d.ifaces)).bnd.flatMap
      (fun e => (adjacent e.1).map (fun n => (e.1, n))) ↔ c.1 ∈ ifaceSides d.ifaces ∧ c.2 ∈ adjacent c.1 := by
    intro c
    simp only [List.mem_flatMap, List.mem_map, mem_ifaceSides]
    constructor
    · rintro ⟨⟨f, f'⟩, he, n, hn, rfl⟩
      obtain ⟨i, hi, hb⟩ := (w.bnd_mem f f').mp he
      exact ⟨⟨i, hi, hb.imp And.left And.left⟩, hn⟩
    · rintro ⟨⟨i, hi, hb⟩, h2⟩
      rcases hb with hb | hb
      · exact ⟨(i.minus, i.plus), (w.bnd_mem _ _).mpr ⟨i, hi, Or.inl ⟨rfl, rfl⟩⟩, c.2, hb ▸ h2, by rw [← hb]⟩
      · exact ⟨(i.plus, i.minus), (w.bnd_mem _ _).mpr ⟨i, hi, Or.inr ⟨rfl, rfl⟩⟩, c.2, hb ▸ h2, by rw [← hb]⟩
  -- the two faces of a listed corner lie on one patch of `ps`, and only the first is joined: no corner is listed twice
  have hfaces : ∀ c : Corner, c.1 ∈ ifaceSides d.ifaces ∧ c.2 ∈ adjacent c.1 →
      c.1.patch ∈ ps ∧ c.2.patch ∈ ps ∧ c.2 ∉ ifaceSides d.ifaces := by
    rintro c ⟨h1, h2⟩
    obtain ⟨h3, h4⟩ := (mem_adjacent _ _).mp h2
    have hp := ((mem_allFaces ps _).mp (w.toWF.side_all h1)).1
    have hcp := ((mem_faces _ _).mp h3).1
    exact ⟨hp, hcp ▸ hp, hndc.adj_not_side h1 hcp h4⟩
  rw [workList, mem_dedupBy _ _ (fun a ha b hb hs => ?_), hL]
  obtain ⟨a1, a2, _⟩ := hfaces a ((hL a).mp ha)
  obtain ⟨b1, b2, bn⟩ := hfaces b ((hL b).mp hb)
  rcases sameSet_eq w.names a1 a2 b1 b2 hs with h | h
  · exact h
  · have h1 : a.1 = b.2 := congrArg Prod.fst h
    exact absurd (h1 ▸ ((hL a).mp ha).1) bn

theorem corners_simple_core (hndc : NoDoubleCorner d) (hne : d.ifaces ≠ []) :
    ∃ gs, d.toDomCore.corners = .ok gs ∧
      (∀ g ∈ gs, ∃ i ∈ d.ifaces, ∃ e, (e = 1 ∨ e = -1) ∧ IsPair g (cornerM i e) (cornerP i e)) ∧
      (∀ i ∈ d.ifaces, ∀ e, (e = 1 ∨ e = -1) → ∃ g ∈ gs, IsPair g (cornerM i e) (cornerP i e)) := by
  have hfacts : ∀ c ∈ workList d, ∃ i ∈ d.ifaces, ∃ e, (e = 1 ∨ e = -1) ∧ ∃ g,
      cornerGroup (cornerCtx (sortBy Iface.name d.ifaces)) (8 * d.interiors.length + 2) c = .ok g ∧
      GroupOf i e c g := fun c hc =>
    let ⟨h1, h2⟩ := (w.mem_workList hndc c).mp hc
    w.work_facts hndc _ (by omega) c h1 h2
  obtain ⟨gs, hrun, hsound, hcomplete⟩ := cornerLoop_spec _ _ _ (workList d) (Nat.lt_succ_self _) fun c hc =>
    let ⟨_, _, _, _, g, hg, hform⟩ := hfacts c hc
    ⟨g, hg, hform.mem_self⟩
  -- every group is the group of a popped corner, hence of one end of one interface
  have hgroups : ∀ g ∈ gs, ∃ i ∈ d.ifaces, ∃ e, (e = 1 ∨ e = -1) ∧ ∃ c, GroupOf i e c g := by
    intro g hg
    obtain ⟨c, hc, hgc⟩ := hsound g hg
    obtain ⟨i, hi, e, he, g', hg', hform⟩ := hfacts c hc
    cases hgc.symm.trans hg'
    exact ⟨i, hi, e, he, c, hform⟩
  refine ⟨gs, (w.corners_eq hne).trans hrun, fun g hg => ?_, fun i hi e he => ?_⟩
  · obtain ⟨i, hi, e, he, _, hform⟩ := hgroups g hg
    exact ⟨i, hi, e, he, hform.isPair⟩
  · -- the minus corner at the end `e` of `i` is on the work list; the group that contains it is the group of `(i, e)`
    have hax := w.axis_lt hi
    have hwork : cornerM i e ∈ workList d := by
      refine (w.mem_workList hndc _).mpr ⟨minus_side hi, (mem_adjacent _ _).mpr ⟨(mem_faces _ _).mpr ⟨rfl, ?_, ?_⟩, ?_⟩⟩
      · simp only [cornerM, faceOn]; rw [w.dim2 _ (w.minus_ps hi)]; omega
      · exact he.symm
      · simp only [cornerM, faceOn]; omega
    obtain ⟨g, hg, c', hc', hs⟩ := hcomplete _ hwork
    obtain ⟨j, hj, e', _, _, hform⟩ := hgroups g hg
    obtain ⟨rfl, rfl⟩ := w.group_unique hndc hi hj hform hc' hs
    exact ⟨g, hg, hform.isPair⟩

end WF2

/-- every declared orientation is +1 or -1 (2D) -/
def OrntPM (ps : List Patch) (cs : List Conn) : Prop :=
  ∀ c ∈ resolved ps cs, c.ornt = .o2 1 ∨ c.ornt = .o2 (-1)

instance (ps : List Patch) (cs : List Conn) : Decidable (OrntPM ps cs) := by unfold OrntPM; infer_instance

/-! ### single-row grids: chains and rings of squares -/

/-- the corner of patch `p` between its face (axis 0, side `s`) and its face (axis 1, side `e`) -/
def gcorner (p : Patch) (s e : Int) : Corner := (⟨p, 0, s⟩, ⟨p, 1, e⟩)

/-- a chain (or ring) of squares along axis 0 with orientations ±1 -/
structure ChainOk (g : Grid) : Prop extends GridOk g where
  d2 : g.d = 2
  row : g.n.2.1 = 1
  orntPM : ∀ x a, g.ornt x a = none ∨ g.ornt x a = some [1] ∨ g.ornt x a = some [-1]

theorem ChainOk.next_axis {g : Grid} (hc : ChainOk g) {x y : Nat × Nat × Nat} {a : Nat} (ha : a < g.d)
    (hx : x ∈ g.idxs) (h : g.next x a = some y) : a = 0 := by
  have hd := hc.d2
  rcases a with _ | _ | a
  · rfl
  · exfalso
    unfold Grid.next at h
    have hrow := hc.row
    simp only [Grid.idxs, mem_gridIdx] at hx
    have hs : g.size 1 = 1 := by simp [Grid.size, idxGet, hrow]
    rw [hs] at h
    simp only [idxGet] at h
    split at h
    · omega
    · split at h
      · rename_i h2; simp at h2
      · cases h
  · omega

theorem ChainOk.orntOf_pm {g : Grid} (hc : ChainOk g) (x : Nat × Nat × Nat) (a : Nat) :
    g.orntOf x a = .o2 1 ∨ g.orntOf x a = .o2 (-1) := by
  unfold Grid.orntOf
  rw [hc.d2]
  rcases hc.orntPM x a with h | h | h <;> simp [h, mkOrnt]

theorem ChainOk.resolved_mem {g : Grid} (hc : ChainOk g) {cs : List Conn} (hsel : ∀ c ∈ cs, c ∈ g.conns)
    (hne : g.patches ≠ []) {r : RConn} (hr : r ∈ resolved g.patches cs) :
    ∃ x ∈ g.idxs, ∃ y, g.next x 0 = some y ∧ y ∈ g.idxs ∧ g.mkConn x 0 y ∈ cs ∧ r = g.mkR x 0 y := by
  obtain ⟨_, R, hspec, hcm⟩ := resolved_grid hc.toGridOk hsel hne
  rw [hspec] at hr
  obtain ⟨c, hcs, rfl⟩ := List.mem_map.mp hr
  obtain ⟨x, hx, a, ha, y, hy, hym, rfl, e⟩ := hcm c hcs
  cases hc.next_axis ha hx hy
  exact ⟨x, hx, y, hy, hym, hcs, e⟩

theorem ChainOk.noSelf {g : Grid} (hc : ChainOk g) {cs : List Conn} (hsel : ∀ c ∈ cs, c ∈ g.conns)
    (hne : g.patches ≠ []) : NoSelf g.patches cs := by
  intro r hr e
  obtain ⟨x, hx, y, hy, hym, _, rfl⟩ := hc.resolved_mem hsel hne hr
  exact next_ne g (by have := hc.dle; omega) hx hy (hc.toGridOk.name_inj hx hym e)

theorem ChainOk.orntPM_resolved {g : Grid} (hc : ChainOk g) {cs : List Conn} (hsel : ∀ c ∈ cs, c ∈ g.conns)
    (hne : g.patches ≠ []) : OrntPM g.patches cs := by
  intro r hr
  obtain ⟨x, _, y, _, _, _, rfl⟩ := hc.resolved_mem hsel hne hr
  exact hc.orntOf_pm x 0

/-! ### layouts used by the non-vacuity examples of Props/C13.lean -/

def exA : Patch := ⟨"A", 2, [0, 0], [1, 1], some "F"⟩
def exB : Patch := ⟨"B", 2, [1, 0], [2, 1], some "G"⟩
def exC : Patch := ⟨"C", 2, [1, 1], [2, 2], some "H"⟩
def exConns : List Conn :=
  [⟨⟨.idx 0, some 0, 1⟩, ⟨.idx 1, some 0, -1⟩, some [-1]⟩, ⟨⟨.idx 2, some 1, -1⟩, ⟨.idx (-2), some 1, 1⟩, none⟩]
/-- a 2 x 2 grid of squares, periodic along axis 0 -/
def exGrid : Grid := ⟨2, (2, 2, 1), (true, false, false), fun x =>
  ⟨"P" ++ toString x.1 ++ toString x.2.1, 2, [x.1, x.2.1], [x.1 + 1, x.2.1 + 1], some ("F" ++ toString x.1 ++ toString x.2.1)⟩,
  fun x a => if a == 0 then some [-1] else if x.1 == 0 then none else some [1]⟩

/-- a ring of three squares along axis 0, the middle connection declared with orientation -1 -/
def exChain : Grid := ⟨2, (3, 1, 1), (true, false, false), fun x =>
  ⟨"Q" ++ toString x.1, 2, [x.1, 0], [x.1 + 1, 1], none⟩,
  fun x _ => if x.1 == 1 then some [-1] else none⟩

/-- a plain 2 x 2 grid of squares -/
def exGrid22 : Grid := ⟨2, (2, 2, 1), (false, false, false), fun x =>
  ⟨"S" ++ toString x.1 ++ toString x.2.1, 2, [x.1, x.2.1], [x.1 + 1, x.2.1 + 1], none⟩, fun _ _ => none⟩

theorem exResolved : resolved [exA, exB, exC] exConns =
    [⟨⟨exA, 0, 1⟩, ⟨exB, 0, -1⟩, .o2 (-1)⟩, ⟨⟨exC, 1, -1⟩, ⟨exB, 1, 1⟩, .o2 1⟩] := by decide +kernel

theorem exChain_ok :
    ChainOk exChain ∧ 2 ≤ exChain.patches.length ∧ GridSel exChain exChain.conns ∧ exChain.conns ≠ [] :=
  ⟨⟨⟨by decide +kernel, by decide +kernel, by decide +kernel, by decide +kernel, by decide +kernel, fun x a => by
      simp only [exChain]; split <;> exact ⟨_, rfl⟩⟩, rfl, rfl, fun x a => by
      simp only [exChain]; split <;> simp⟩, by decide +kernel, ⟨by decide +kernel, by decide +kernel⟩, by decide +kernel⟩

end Sympde.Topo

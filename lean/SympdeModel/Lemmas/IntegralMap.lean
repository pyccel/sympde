/-
  For C04: what the Gram determinant denotes; the Jacobian computed by the model is the
  matrix of logical derivatives of the mapping components; derivative-free integrands on a surface.
-/
import SympdeModel.Lemmas.PullbackSem
import SympdeModel.Model.IntegralMap
namespace Sympde.IM
open E PD PB
open DRing (sumN)

variable {K : Type} [CommRing K] [Algebra ℚ K]

theorem den_gramE (S : DRing K) (j : RJac) (hp : j.p ≤ 3) (a b x y : Nat) :
    den S (gramE j a b) x y = sumN j.p (fun i => den S (j.J i a) x y * den S (j.J i b) x y) := by
  simp only [gramE]
  rw [den_sum3 S j.p hp]
  apply DRing.sumN_congr
  intro i _
  rw [den_mul2]

theorem den_detGram (S : DRing K) (j : RJac) (hp : j.p ≤ 3) (x y : Nat) :
    let g (a b : Nat) : K := sumN j.p (fun i => den S (j.J i a) x y * den S (j.J i b) x y)
    (∀ a, den S (detGram j [a]) x y = g a a) ∧
    (∀ a b, den S (detGram j [a, b]) x y = g a a * g b b - g a b * g b a) ∧
    (∀ a b c, den S (detGram j [a, b, c]) x y
      = g a a * (g b b * g c c - g b c * g c b) + -(g a b * (g b a * g c c - g b c * g c a))
        + g a c * (g b a * g c b - g b b * g c a)) := by
  intro g
  simp only [detGram, den_sub, den_neg, den_add3, den_mul2, den_gramE S j hp, g, implies_true, and_self]

theorem mapM_ok_get {α β : Type} (f : α → Except Err β) (xs : List α) (ys : List β)
    (h : xs.mapM f = .ok ys) :
    ys.length = xs.length ∧ ∀ i (hi : i < xs.length) (hj : i < ys.length), f xs[i] = .ok ys[i] := by
  induction xs generalizing ys with
  | nil =>
    rw [List.mapM_nil] at h; cases h
    exact ⟨rfl, fun i hi => absurd hi (Nat.not_lt_zero i)⟩
  | cons x xs ih =>
    rw [List.mapM_cons] at h
    obtain ⟨y, hx, h⟩ := bind_ok h
    obtain ⟨ys', hxs, h⟩ := bind_ok h
    cases h
    obtain ⟨h1, h2⟩ := ih ys' hxs
    refine ⟨congrArg (· + 1) h1, fun i hi hj => ?_⟩
    cases i with
    | zero => exact hx
    | succ i => exact h2 i (Nat.lt_of_succ_lt_succ hi) (Nat.lt_of_succ_lt_succ hj)

theorem rjacOf_entries (name : String) (F : List E) (l : Nat) (rj : RJac) (h : rjacOf name F l = .ok rj) :
    rj.p = F.length ∧ rj.l = l ∧
      ∀ i (hi : i < F.length) k, k < l → ldiff name (lc k) F[i] = .ok (rj.J i k) := by
  unfold rjacOf at h
  obtain ⟨rows, hr, h⟩ := bind_ok h
  cases h
  refine ⟨rfl, rfl, fun i hi k hk => ?_⟩
  obtain ⟨hlen, hget⟩ := mapM_ok_get _ F rows hr
  have hi' : i < rows.length := hlen ▸ hi
  obtain ⟨hlen2, hget2⟩ := mapM_ok_get _ (List.range l) rows[i] (hget i hi hi')
  have hk1 : k < (List.range l).length := by rw [List.length_range]; exact hk
  have hk2 : k < rows[i].length := hlen2 ▸ hk1
  have := hget2 k hk1 hk2
  rw [List.getElem_range] at this
  rw [this]
  simp only [List.getD_eq_getElem?_getD, List.getElem?_eq_getElem hi', List.getElem?_eq_getElem hk2, Option.getD_some]

theorem rjacOf_is_jacobian (S : DRing K) (T : FnTable S) (name : String) (F : List E) (l : Nat) (rj : RJac)
    (h : rjacOf name F l = .ok rj) (hint : ∀ f ∈ F, IntPow f = true) (hnd : ∀ f ∈ F, NonDeg S f)
    (i : Nat) (hi : i < F.length) (k : Nat) (hk : k < l) (x y : Nat) :
    den S (rj.J i k) x y = S.D (lc k) (den S F[i] x y) := by
  obtain ⟨_, _, hent⟩ := rjacOf_entries name F l rj h
  have hmem : F[i] ∈ F := List.getElem_mem hi
  exact (ldiff_all S T name (lc k) F[i] (hint _ hmem) (hnd _ hmem) (rj.J i k) (hent i hi k hk)).2.2 x y

/-- physical and logical reading on a surface (no physical derivatives are transformable there):
    the coordinates are the components of the mapping, H1/undefined functions are composed with it,
    everything else is shared -/
structure SurfRel (SL SP : DRing K) (p : Nat) (F : Nat → E) : Prop where
  fn_eq : SP.fn = SL.fn
  inv_eq : SP.inv = SL.inv
  cst_eq : SP.cst = SL.cst
  sf_eq : SP.sf = SL.sf
  sym_coord : ∀ i, i < p → ∀ a b, SP.sym (pc i).name = den SL (F i) a b
  sym_other : ∀ s, (∀ i, physIdx s = some i → p ≤ i) → isLogName s = false → SP.sym s = SL.sym s

mutual
/-- derivative-free integrands with integer powers -/
def SFrag : E → Bool
  | num _ _ => true
  | cst _ => true
  | sym s => !isLogName s
  | sf _ k => k == .h1 || k == .undef
  | add as => SFragList as
  | mul as => SFragList as
  | pow b e => (intLit e).isSome && SFrag b
  | fn _ a => SFrag a
  | _ => false
def SFragList : List E → Bool
  | [] => true
  | a :: as => SFrag a && SFragList as
end

/-- replacing the coordinates by the mapping components gives an expression whose value at the
    logical point is the value of the integrand at the image point -/
theorem substCoords_sound (SL SP : DRing K) (p : Nat) (hp : p ≤ 3) (F : Nat → E) (R : SurfRel SL SP p F) (e : E) :
    SFrag e = true → ∀ r, substCoords p F e = .ok r → ∀ x y, den SL r x y = den SP e x y := by
  induction e using E.rec
    (motive_2 := fun as => SFragList as = true → ∀ rs, substCoordsList p F as = .ok rs →
      (∀ x y, denSum SL rs x y = denSum SP as x y) ∧ (∀ x y, denProd SL rs x y = denProd SP as x y)) with
  | num a b =>
    intro _ r h x y
    simp only [substCoords] at h; cases h
    rfl
  | cst s =>
    intro _ r h x y
    simp only [substCoords] at h; cases h
    simp only [den, R.cst_eq]
  | sym s =>
    intro hf r h x y
    simp only [SFrag, Bool.not_eq_true'] at hf
    simp only [substCoords] at h
    cases hq : physIdx s with
    | none =>
      simp only [hq] at h; cases h
      exact (R.sym_other s (fun i hi => by rw [hq] at hi; cases hi) hf).symm
    | some i =>
      simp only [hq] at h
      split at h <;> rename_i hi <;> cases h
      · simp only [den]
        rw [physIdx_name s i hq (Nat.lt_of_lt_of_le hi hp)]
        exact (R.sym_coord i hi x y).symm
      · exact (R.sym_other s (fun i' hi' => by rw [hq] at hi'; cases hi'; exact Nat.le_of_not_lt hi) hf).symm
  | sf s k =>
    intro hf r h x y
    simp only [substCoords] at h
    split at h <;> cases h <;> simp only [den, R.sf_eq]
  | add as ih =>
    intro hf r h x y
    simp only [substCoords] at h
    obtain ⟨rs, hl, h⟩ := bind_ok h
    cases h
    exact (ih hf rs hl).1 x y
  | mul as ih =>
    intro hf r h x y
    simp only [substCoords] at h
    obtain ⟨rs, hl, h⟩ := bind_ok h
    cases h
    exact (ih hf rs hl).2 x y
  | pow b e ihb _ =>
    intro hf r h x y
    simp only [SFrag, Bool.and_eq_true] at hf
    obtain ⟨n, hl⟩ := Option.isSome_iff_exists.mp hf.1
    obtain rfl := intLit_eq_some hl
    simp only [substCoords] at h
    obtain ⟨lb, hb, h⟩ := bind_ok h
    cases h
    simp only [den, ihb hf.2 lb hb x y, powSem, intLit_num, R.inv_eq]
    cases n <;> rfl
  | fn f a iha =>
    intro hf r h x y
    simp only [substCoords] at h
    obtain ⟨la, ha, h⟩ := bind_ok h
    cases h
    simp only [den, iha hf la ha x y, R.fn_eq]
  | vf s k => intro hf; cases hf
  | idx b i _ => intro hf; cases hf
  | pd c a _ => intro hf; cases hf
  | op1 o a _ => intro hf; cases hf
  | op2 o a b _ _ => intro hf; cases hf
  | mat r c es _ => intro hf; cases hf
  | tup as _ => intro hf; cases hf
  | normal k => intro hf; cases hf
  | other t as _ => intro hf; cases hf
  | nil =>
    rename_i hf rs h
    simp only [substCoordsList] at h; cases h
    exact ⟨fun _ _ => rfl, fun _ _ => rfl⟩
  | cons a as iha ihas =>
    rename_i hf rs h
    simp only [substCoordsList] at h
    simp only [SFragList, Bool.and_eq_true] at hf
    obtain ⟨r, h1, h⟩ := bind_ok h
    obtain ⟨rs', h2, h⟩ := bind_ok h
    cases h
    have p1 := iha hf.1 r h1
    obtain ⟨q1, q2⟩ := ihas hf.2 rs' h2
    exact ⟨fun x y => by simp only [denSum, p1, q1], fun x y => by simp only [denProd, p1, q2]⟩

end Sympde.IM

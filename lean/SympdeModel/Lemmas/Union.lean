/-
  `dedup`, stable insertion sort by a string key, the canonical list of a finite set (`canon`),
  and the structure of `mkUnion`.
-/
import SympdeModel.Model.Union
namespace Sympde
namespace USet

set_option linter.unusedSectionVars false

section canon
variable {α : Type} [DecidableEq α]

theorem mem_dedup (l : List α) (x : α) : x ∈ dedup l ↔ x ∈ l := by
  induction l with
  | nil => simp [dedup]
  | cons a as ih =>
    by_cases h : a ∈ as <;> simp only [dedup, h, if_true, if_false, List.mem_cons, ih]
    exact ⟨Or.inr, fun h' => h'.elim (fun e => e ▸ h) id⟩

theorem nodup_dedup (l : List α) : (dedup l).Nodup := by
  induction l with
  | nil => simp [dedup]
  | cons a as ih =>
    by_cases h : a ∈ as <;> simp only [dedup, h, if_true, if_false]
    · exact ih
    · exact List.nodup_cons.mpr ⟨fun h' => h ((mem_dedup as a).mp h'), ih⟩

theorem dedup_of_nodup (l : List α) (h : l.Nodup) : dedup l = l := by
  induction l with
  | nil => rfl
  | cons a as ih =>
    have := List.nodup_cons.mp h
    simp [dedup, this.1, ih this.2]

def Sorted (key : α → String) (l : List α) : Prop := l.Pairwise (fun a b => key a ≤ key b)

def KeyInj (key : α → String) (l : List α) : Prop := ∀ a ∈ l, ∀ b ∈ l, key a = key b → a = b

theorem insertBy_perm (key : α → String) (a : α) (l : List α) : (insertBy key a l).Perm (a :: l) := by
  induction l with
  | nil => simp [insertBy]
  | cons b bs ih =>
    simp only [insertBy]
    split
    · exact List.Perm.refl _
    · exact (List.Perm.cons b ih).trans (List.Perm.swap a b bs)

theorem sortBy_perm (key : α → String) (l : List α) : (sortBy key l).Perm l := by
  induction l with
  | nil => simp [sortBy]
  | cons a as ih => exact (insertBy_perm key a _).trans (List.Perm.cons a ih)

theorem mem_insertBy (key : α → String) (a x : α) (l : List α) :
    x ∈ insertBy key a l ↔ x = a ∨ x ∈ l := by
  rw [(insertBy_perm key a l).mem_iff, List.mem_cons]

theorem mem_sortBy (key : α → String) (x : α) (l : List α) : x ∈ sortBy key l ↔ x ∈ l :=
  (sortBy_perm key l).mem_iff

theorem insertBy_sorted (key : α → String) (a : α) (l : List α) (h : Sorted key l) :
    Sorted key (insertBy key a l) := by
  induction l with
  | nil => simp [insertBy, Sorted]
  | cons b bs ih =>
    unfold Sorted at h ih ⊢
    simp only [insertBy]
    have hb := List.pairwise_cons.mp h
    split
    · rename_i hab
      refine List.pairwise_cons.mpr ⟨?_, h⟩
      intro x hx
      rcases List.mem_cons.mp hx with rfl | hx
      · exact hab
      · exact String.le_trans hab (hb.1 x hx)
    · rename_i hab
      have hba : key b ≤ key a := by
        rcases String.le_total (key a) (key b) with h1 | h1
        · exact absurd h1 hab
        · exact h1
      refine List.pairwise_cons.mpr ⟨?_, ih hb.2⟩
      intro x hx
      rcases (mem_insertBy key a x bs).mp hx with rfl | hx
      · exact hba
      · exact hb.1 x hx

theorem sortBy_sorted (key : α → String) (l : List α) : Sorted key (sortBy key l) := by
  induction l with
  | nil => simp [sortBy, Sorted]
  | cons a as ih => exact insertBy_sorted key a _ ih

theorem insertBy_of_le (key : α → String) (a : α) (l : List α) (h : ∀ x ∈ l, key a ≤ key x) :
    insertBy key a l = a :: l := by
  cases l with
  | nil => rfl
  | cons b bs => simp [insertBy, h b (by simp)]

theorem sortBy_of_sorted (key : α → String) (l : List α) (h : Sorted key l) : sortBy key l = l := by
  induction l with
  | nil => rfl
  | cons a as ih =>
    have hb := List.pairwise_cons.mp h
    simp only [sortBy]
    rw [ih hb.2]
    exact insertBy_of_le key a as hb.1

theorem eq_of_perm_sorted (key : α → String) (l₁ l₂ : List α) (inj : KeyInj key l₁)
    (hp : l₁.Perm l₂) (h₁ : Sorted key l₁) (h₂ : Sorted key l₂) : l₁ = l₂ := by
  induction l₁ generalizing l₂ with
  | nil => exact (List.Perm.nil_eq hp)
  | cons a t ih =>
    cases l₂ with
    | nil => exact absurd hp.symm (by simp)
    | cons b t' =>
      have p₁ := List.pairwise_cons.mp h₁
      have p₂ := List.pairwise_cons.mp h₂
      have hab : a = b := by
        have ha : a ∈ b :: t' := hp.mem_iff.mp (by simp)
        have hb : b ∈ a :: t := hp.mem_iff.mpr (by simp)
        rcases List.mem_cons.mp ha with h | ha'
        · exact h
        · rcases List.mem_cons.mp hb with h | hb'
          · exact h.symm
          · exact inj a (by simp) b (List.mem_cons_of_mem _ hb')
              (String.le_antisymm (p₁.1 b hb') (p₂.1 a ha'))
      subst hab
      have inj' : KeyInj key t := fun x hx y hy =>
        inj x (List.mem_cons_of_mem _ hx) y (List.mem_cons_of_mem _ hy)
      rw [ih t' inj' (List.Perm.cons_inv hp) p₁.2 p₂.2]

theorem mem_canon (key : α → String) (l : List α) (x : α) : x ∈ canon key l ↔ x ∈ l := by
  unfold canon; rw [mem_sortBy, mem_dedup]

theorem canon_nodup (key : α → String) (l : List α) : (canon key l).Nodup :=
  (sortBy_perm key (dedup l)).nodup_iff.mpr (nodup_dedup l)

theorem canon_sorted (key : α → String) (l : List α) : Sorted key (canon key l) :=
  sortBy_sorted key _

theorem KeyInj.of_subset {key : α → String} {l l' : List α} (h : KeyInj key l)
    (hs : ∀ x ∈ l', x ∈ l) : KeyInj key l' :=
  fun a ha b hb => h a (hs a ha) b (hs b hb)

theorem canon_ext (key : α → String) (l₁ l₂ : List α) (inj : KeyInj key l₁)
    (h : ∀ x, x ∈ l₁ ↔ x ∈ l₂) : canon key l₁ = canon key l₂ := by
  apply eq_of_perm_sorted key
  · exact inj.of_subset (fun x hx => (mem_canon key l₁ x).mp hx)
  · apply (List.perm_ext_iff_of_nodup (canon_nodup key l₁) (canon_nodup key l₂)).mpr
    intro x; rw [mem_canon, mem_canon, h]
  · exact canon_sorted key l₁
  · exact canon_sorted key l₂

theorem canon_of_sorted_nodup (key : α → String) (l : List α) (hs : Sorted key l) (hn : l.Nodup) :
    canon key l = l := by
  unfold canon; rw [dedup_of_nodup l hn, sortBy_of_sorted key l hs]

theorem canon_idem (key : α → String) (l : List α) : canon key (canon key l) = canon key l :=
  canon_of_sorted_nodup key _ (canon_sorted key l) (canon_nodup key l)

def StrictSorted (key : α → String) (l : List α) : Prop := l.Pairwise (fun a b => key a < key b)

theorem canon_strict (key : α → String) (l : List α) (inj : KeyInj key l) :
    StrictSorted key (canon key l) := by
  have hs := canon_sorted key l
  have hn := canon_nodup key l
  have inj' : KeyInj key (canon key l) := inj.of_subset (fun x hx => (mem_canon key l x).mp hx)
  unfold StrictSorted
  unfold Sorted at hs
  generalize canon key l = c at hs hn inj'
  induction c with
  | nil => exact List.Pairwise.nil
  | cons a t ih =>
    have p := List.pairwise_cons.mp hs
    have n := List.nodup_cons.mp hn
    refine List.pairwise_cons.mpr ⟨?_, ih p.2 n.2 (inj'.of_subset (fun x hx => List.mem_cons_of_mem _ hx))⟩
    intro b hb
    apply Decidable.byContradiction
    intro hlt
    have hba : key b ≤ key a := String.not_lt.mp hlt
    have : a = b := inj' a (by simp) b (List.mem_cons_of_mem _ hb) (String.le_antisymm (p.1 b hb) hba)
    subst this; exact n.1 hb

theorem StrictSorted.sorted {key : α → String} {l : List α} (h : StrictSorted key l) : Sorted key l := by
  unfold StrictSorted at h; unfold Sorted
  exact h.imp (fun {a b} hab => by
    rcases String.le_total (key a) (key b) with h1 | h1
    · exact h1
    · exact absurd hab (String.not_lt.mpr h1))

theorem StrictSorted.nodup {key : α → String} {l : List α} (h : StrictSorted key l) : l.Nodup := by
  unfold StrictSorted at h
  exact h.imp (fun {a b} hab heq => by subst heq; exact String.lt_irrefl _ hab)

theorem StrictSorted.keyInj {key : α → String} {l : List α} (h : StrictSorted key l) : KeyInj key l := by
  unfold StrictSorted at h
  induction l with
  | nil => intro a ha; cases ha
  | cons x t ih =>
    have p := List.pairwise_cons.mp h
    intro a ha b hb hk
    rcases List.mem_cons.mp ha with ha1 | ha1
    · rcases List.mem_cons.mp hb with hb1 | hb1
      · rw [ha1, hb1]
      · subst ha1; exact absurd (hk ▸ p.1 b hb1) (String.lt_irrefl _)
    · rcases List.mem_cons.mp hb with hb1 | hb1
      · subst hb1; exact absurd (hk ▸ p.1 a ha1) (String.lt_irrefl _)
      · exact ih p.2 a ha1 b hb1 hk

end canon

/-! ### structure of `mkUnion` -/

theorem dedup_length_le_one_iff {β : Type} [DecidableEq β] (l : List β) :
    (dedup l).length ≤ 1 ↔ ∀ a ∈ l, ∀ b ∈ l, a = b := by
  have hn := nodup_dedup l
  simp only [← mem_dedup l]
  generalize dedup l = m at hn
  match m, hn with
  | [], _ => simp
  | [x], _ => simp
  | x :: y :: t, hn =>
    have : x ≠ y := fun e => by simp [e] at hn
    simp only [List.length_cons, Nat.reduceLeDiff, false_iff]
    exact fun h => this (h x (by simp) y (by simp))

def live (args : List Arg) : List Arg := args.filter (fun a => !a.isNone)

/-- the flattened list exactly as `Union.__new__` builds it: the non-Union arguments first,
    then the members of every Union argument -/
def flat (args : List Arg) : List Atom :=
  ((live args).filter (fun a => !a.isUnion)).flatMap Arg.members ++
    ((live args).filter Arg.isUnion).flatMap Arg.members

/-- all arguments are domains or None -/
def NoBad (args : List Arg) : Prop := ∀ a ∈ args, a.isBad = false

def Uniform (args : List Arg) : Prop :=
  ∀ a ∈ args, ∀ b ∈ args, a.isNone = false → b.isNone = false → a.dim = b.dim

theorem mem_live (args : List Arg) (a : Arg) : a ∈ live args ↔ a ∈ args ∧ a.isNone = false := by
  simp [live]

theorem mem_flat (args : List Arg) (x : Atom) : x ∈ flat args ↔ ∃ a ∈ args, x ∈ a.members := by
  simp only [flat, List.mem_append, List.mem_flatMap, List.mem_filter, mem_live]
  constructor
  · rintro (⟨a, ⟨⟨ha, _⟩, _⟩, hx⟩ | ⟨a, ⟨⟨ha, _⟩, _⟩, hx⟩) <;> exact ⟨a, ha, hx⟩
  · rintro ⟨a, ha, hx⟩
    have hn : a.isNone = false := by cases a <;> simp_all [Arg.members, Arg.isNone]
    cases hu : a.isUnion
    · exact Or.inl ⟨a, ⟨⟨ha, hn⟩, by simp [hu]⟩, hx⟩
    · exact Or.inr ⟨a, ⟨⟨ha, hn⟩, hu⟩, hx⟩

theorem mkUnion_bad (args : List Arg) (h : ∃ a ∈ args, a.isBad = true) :
    mkUnion args = .error .typeError := by
  obtain ⟨a, ha, hb⟩ := h
  have hl : a ∈ live args := (mem_live args a).mpr ⟨ha, by cases a <;> simp_all [Arg.isBad, Arg.isNone]⟩
  have : (live args).any Arg.isBad = true := List.any_eq_true.mpr ⟨a, hl, hb⟩
  unfold mkUnion
  simp only [live] at this
  simp [this]

theorem any_bad_false (args : List Arg) (h : NoBad args) : (live args).any Arg.isBad = false := by
  rw [List.any_eq_false]
  intro a ha
  have := h a ((mem_live args a).mp ha).1
  simp [this]

theorem mkUnion_mixed (args : List Arg) (hb : NoBad args) (h : ¬ Uniform args) :
    mkUnion args = .error .valueError := by
  have hany := any_bad_false args hb
  have : ¬ (dedup ((live args).map Arg.dim)).length ≤ 1 := by
    rw [dedup_length_le_one_iff]
    intro hall
    apply h
    intro a ha b hb' hna hnb
    exact hall _ (List.mem_map.mpr ⟨a, (mem_live args a).mpr ⟨ha, hna⟩, rfl⟩)
      _ (List.mem_map.mpr ⟨b, (mem_live args b).mpr ⟨hb', hnb⟩, rfl⟩)
  unfold mkUnion
  simp only [live] at hany this
  simp only [hany, Bool.false_eq_true, if_false]
  rw [if_pos (by omega)]

/-- what `Union(*args)` returns on admissible arguments: the canonical list of the set of
    all members, packed (None / the member itself / a Union object) -/
theorem mkUnion_ok (args : List Arg) (hb : NoBad args) (hu : Uniform args) :
    mkUnion args = .ok (pack (canon Atom.key (flat args))) := by
  have hany := any_bad_false args hb
  have : (dedup ((live args).map Arg.dim)).length ≤ 1 := by
    rw [dedup_length_le_one_iff]
    intro x hx y hy
    obtain ⟨a, ha, rfl⟩ := List.mem_map.mp hx
    obtain ⟨b, hb', rfl⟩ := List.mem_map.mp hy
    have ha' := (mem_live args a).mp ha
    have hb'' := (mem_live args b).mp hb'
    exact hu a ha'.1 b hb''.1 ha'.2 hb''.2
  unfold mkUnion
  simp only [live] at hany this
  simp only [hany, Bool.false_eq_true, if_false]
  rw [if_neg (by omega)]
  rfl

theorem mkUnion_ok_inv (args : List Arg) (r : Res) (h : mkUnion args = .ok r) :
    NoBad args ∧ Uniform args ∧ r = pack (canon Atom.key (flat args)) := by
  have hb : NoBad args := by
    intro a ha
    cases hbad : a.isBad
    · rfl
    · rw [mkUnion_bad args ⟨a, ha, hbad⟩] at h; cases h
  have hu : Uniform args := by
    apply Classical.byContradiction
    intro hn
    rw [mkUnion_mixed args hb hn] at h; cases h
  refine ⟨hb, hu, ?_⟩
  rw [mkUnion_ok args hb hu] at h
  cases h; rfl

theorem members_pack (l : List Atom) : (pack l).members = l := by
  match l with
  | [] => rfl
  | [_] => rfl
  | _ :: _ :: _ => rfl

theorem mem_members_of_ok (args : List Arg) (r : Res) (h : mkUnion args = .ok r) (x : Atom) :
    x ∈ r.members ↔ ∃ a ∈ args, x ∈ a.members := by
  obtain ⟨_, _, rfl⟩ := mkUnion_ok_inv args r h
  rw [members_pack, mem_canon, mem_flat]

/-! ### results passed on as arguments -/

/-- a Union object passed as argument has members of one dimension (true of every object
    `Union.__new__` returns: `union_result_wf`) -/
def WFArg : Arg → Prop
  | .union hd tl => ∀ x ∈ tl, x.dim = hd.dim
  | _ => True

theorem members_toArg (r : Res) (h : ∃ l, r = pack l) : r.toArg.members = r.members := by
  obtain ⟨l, rfl⟩ := h
  match l with
  | [] => rfl
  | [_] => rfl
  | _ :: _ :: _ => rfl

theorem isPack_of_ok (args : List Arg) (r : Res) (h : mkUnion args = .ok r) : ∃ l, r = pack l :=
  ⟨_, (mkUnion_ok_inv args r h).2.2⟩

theorem mem_toArg_of_ok (args : List Arg) (r : Res) (h : mkUnion args = .ok r) (x : Atom) :
    x ∈ r.toArg.members ↔ ∃ a ∈ args, x ∈ a.members := by
  rw [members_toArg r (isPack_of_ok args r h), mem_members_of_ok args r h]

theorem toArg_notBad (r : Res) : r.toArg.isBad = false := by
  cases r with
  | null => rfl
  | single a => rfl
  | union ms => cases ms <;> rfl

theorem dim_of_member (a : Arg) (hw : WFArg a) (x : Atom) (hx : x ∈ a.members) : x.dim = a.dim := by
  cases a with
  | none => cases hx
  | bad => cases hx
  | atom b => simp [Arg.members] at hx; rw [hx]; rfl
  | union hd tl =>
    simp only [Arg.members, List.mem_cons] at hx
    rcases hx with rfl | hx
    · rfl
    · exact hw x hx

theorem exists_member (a : Arg) (hn : a.isNone = false) (hb : a.isBad = false) :
    ∃ x, x ∈ a.members := by
  cases a with
  | none => cases hn
  | bad => cases hb
  | atom b => exact ⟨b, by simp [Arg.members]⟩
  | union hd tl => exact ⟨hd, by simp [Arg.members]⟩

theorem not_none_of_member (a : Arg) (x : Atom) (hx : x ∈ a.members) : a.isNone = false := by
  cases a <;> simp_all [Arg.members, Arg.isNone]

theorem result_dim (args : List Arg) (r : Res) (h : mkUnion args = .ok r)
    (hw : ∀ a ∈ args, WFArg a) (x : Atom) (hx : x ∈ r.members) :
    ∀ b ∈ args, b.isNone = false → x.dim = b.dim := by
  obtain ⟨_, hu, _⟩ := mkUnion_ok_inv args r h
  obtain ⟨a, ha, hxa⟩ := (mem_members_of_ok args r h x).mp hx
  intro b hb hnb
  rw [dim_of_member a (hw a ha) x hxa]
  exact hu a ha b hb (not_none_of_member a x hxa) hnb

theorem toArg_dim (r : Res) (hp : ∃ l, r = pack l) (hn : r.toArg.isNone = false) :
    ∃ m ∈ r.members, r.toArg.dim = m.dim := by
  obtain ⟨l, rfl⟩ := hp
  match l with
  | [] => cases hn
  | [a] => exact ⟨a, by simp [pack, Res.members], rfl⟩
  | a :: b :: t => exact ⟨a, by simp [pack, Res.members], rfl⟩

theorem toArg_isNone (r : Res) (hp : ∃ l, r = pack l) : r.toArg.isNone = true ↔ r.members = [] := by
  obtain ⟨l, rfl⟩ := hp
  match l with
  | [] => simp [pack, Res.toArg, Arg.isNone, Res.members]
  | [a] => simp [pack, Res.toArg, Arg.isNone, Res.members]
  | a :: b :: t => simp [pack, Res.toArg, Arg.isNone, Res.members]

/-- the dimensions seen by the dimension check -/
def dimsOf (args : List Arg) : List (Option Nat) := (live args).map Arg.dim

theorem mem_dimsOf (args : List Arg) (d : Option Nat) :
    d ∈ dimsOf args ↔ ∃ a ∈ args, a.isNone = false ∧ a.dim = d := by
  simp only [dimsOf, List.mem_map, mem_live, and_assoc]

theorem uniform_iff_dims (args : List Arg) :
    Uniform args ↔ ∀ d₁ ∈ dimsOf args, ∀ d₂ ∈ dimsOf args, d₁ = d₂ := by
  simp only [mem_dimsOf, Uniform]
  exact ⟨fun h d₁ ⟨a, ha, hna, e₁⟩ d₂ ⟨b, hb, hnb, e₂⟩ => e₁ ▸ e₂ ▸ h a ha b hb hna hnb,
    fun h a ha b hb hna hnb => h _ ⟨a, ha, hna, rfl⟩ _ ⟨b, hb, hnb, rfl⟩⟩

theorem uniform_congr (a₁ a₂ : List Arg) (h : ∀ d, d ∈ dimsOf a₁ ↔ d ∈ dimsOf a₂) :
    Uniform a₁ ↔ Uniform a₂ := by
  simp only [uniform_iff_dims, h]

theorem dims_result (g : List Arg) (r : Res) (h : mkUnion g = .ok r) (hw : ∀ a ∈ g, WFArg a)
    (d : Option Nat) : d ∈ dimsOf [r.toArg] ↔ d ∈ dimsOf g := by
  have hp := isPack_of_ok g r h
  rw [mem_dimsOf, mem_dimsOf]
  constructor
  · rintro ⟨a, ha, hn, rfl⟩
    simp at ha; subst ha
    obtain ⟨m, hm, hd⟩ := toArg_dim r hp hn
    obtain ⟨a, ha, hma⟩ := (mem_members_of_ok g r h m).mp hm
    exact ⟨a, ha, not_none_of_member a m hma, by rw [hd, dim_of_member a (hw a ha) m hma]⟩
  · rintro ⟨a, ha, hn, rfl⟩
    have hba := (mkUnion_ok_inv g r h).1 a ha
    obtain ⟨x, hx⟩ := exists_member a hn hba
    have hxr : x ∈ r.members := (mem_members_of_ok g r h x).mpr ⟨a, ha, hx⟩
    have hnn : r.toArg.isNone = false := by
      cases hh : r.toArg.isNone
      · rfl
      · rw [(toArg_isNone r hp).mp hh] at hxr; cases hxr
    obtain ⟨m, hm, hd⟩ := toArg_dim r hp hnn
    exact ⟨r.toArg, by simp, hnn, by rw [hd]; exact result_dim g r h hw m hm a ha hn⟩

theorem dimsOf_append (a b : List Arg) : dimsOf (a ++ b) = dimsOf a ++ dimsOf b := by
  simp [dimsOf, live]

theorem flat_atoms (l : List Atom) : flat (l.map Arg.atom) = l := by
  have h1 : live (l.map Arg.atom) = l.map Arg.atom := by
    simp [live, List.filter_eq_self, Arg.isNone]
  have h2 : (l.map Arg.atom).filter (fun a => !a.isUnion) = l.map Arg.atom := by
    simp [List.filter_eq_self, Arg.isUnion]
  have h3 : (l.map Arg.atom).filter Arg.isUnion = [] := by
    simp [List.filter_eq_nil_iff, Arg.isUnion]
  unfold flat
  rw [h1, h2, h3]
  simp [List.flatMap_map, Arg.members]

theorem live_perm {a₁ a₂ : List Arg} (hp : a₁.Perm a₂) : (live a₁).Perm (live a₂) :=
  hp.filter _

theorem noBad_perm {a₁ a₂ : List Arg} (hp : a₁.Perm a₂) : NoBad a₁ ↔ NoBad a₂ := by
  simp only [NoBad, hp.mem_iff]

theorem uniform_perm {a₁ a₂ : List Arg} (hp : a₁.Perm a₂) : Uniform a₁ ↔ Uniform a₂ := by
  simp only [Uniform, hp.mem_iff]


/-- the standing hygiene hypothesis, stated on the arguments: `str` is injective on all the
    members that occur in them -/
def Hygienic (args : List Arg) : Prop := KeyInj Atom.key (args.flatMap Arg.members)

theorem Hygienic.flat {args : List Arg} (h : Hygienic args) : KeyInj Atom.key (flat args) :=
  KeyInj.of_subset h (fun x hx => by
    obtain ⟨a, ha, hxa⟩ := (mem_flat args x).mp hx
    exact List.mem_flatMap.mpr ⟨a, ha, hxa⟩)


/-- the members of a Union object: strictly increasing `str`, one dimension -/
structure IsUnionObj (ms : List Atom) : Prop where
  strict : StrictSorted Atom.key ms
  dim : ∀ a ∈ ms, ∀ b ∈ ms, a.dim = b.dim

theorem complement_list (ms excl : List Atom) (h : IsUnionObj ms) :
    mkUnion ((ms.filter (fun i => i ∉ excl)).map Arg.atom) =
      .ok (pack (ms.filter (fun i => i ∉ excl))) := by
  have hsub : ∀ x ∈ ms.filter (fun i => i ∉ excl), x ∈ ms := fun x hx => (List.mem_filter.mp hx).1
  rw [mkUnion_ok]
  · rw [flat_atoms]
    congr 2
    apply canon_of_sorted_nodup
    · exact (h.strict.sorted).sublist List.filter_sublist
    · exact (h.strict.nodup).sublist List.filter_sublist
  · intro a ha
    obtain ⟨x, _, rfl⟩ := List.mem_map.mp ha
    rfl
  · intro a ha b hb _ _
    obtain ⟨x, hx, rfl⟩ := List.mem_map.mp ha
    obtain ⟨y, hy, rfl⟩ := List.mem_map.mp hb
    exact h.dim x (hsub x hx) y (hsub y hy)


theorem getElem?_append_zero (w : World) (i : Nat) (pos : Nat) (h : w[i]? = some pos) :
    (w ++ [0])[i]? = some pos := by
  have hi : i < w.length := by
    apply Decidable.byContradiction; intro hn
    rw [List.getElem?_eq_none (by omega)] at h; cases h
  rw [List.getElem?_append_left hi, h]


theorem exec_append_iter (ms : List Atom) (pre : List Op) (w : World) :
    exec ms w (pre ++ [Op.iter]) = exec ms w pre ++ [0] := by
  induction pre generalizing w with
  | nil => rfl
  | cons o os ih => exact ih (step ms w o).1


end USet
end Sympde

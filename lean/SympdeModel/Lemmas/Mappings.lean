/-
  C16: what the generated mapping theorems (Gen/MappingsThms.lean) rest on.  Each of them says that two rational
  expressions in the parameters, the coordinates and sin/cos/… of the coordinates have the same value in every
  differential ring.  `sameValue a b` decides a sufficient condition on the fractions `Frac.asFrac` makes of `a` and
  `b` (`sameFr`): both numerators vanish, or the denominators agree and so do the numerators, or the cross products
  agree — as polynomials in their atoms (`RingEq.ringEq`, core's verified normaliser).  The four facts about a mapping are then checks over its tables of
  stored entries (`jacOK`, `gramOK`, `detOK`, `invOK`), each with the theorem that a passed check gives the fact
  for all entries; the kernel evaluates the checks.
-/
import SympdeModel.Lemmas.Frac
import SympdeModel.Lemmas.RingEq
namespace Sympde
open E PD Frac
open DRing (sumN sumN_congr)

variable {K : Type} [CommRing K] [Algebra ℚ K]

@[simp] theorem algebraMap_int_div_one_map (n : Int) :
    algebraMap ℚ K ((n : ℚ) / ((1 : ℕ) : ℚ)) = (n : K) := by simp

/-- `RingEq` speaks of the classical reading `denG`; on elementary expressions (no operator nodes) it is `den` -/
theorem denG_Elem (S : DRing K) (d : Nat) (lg : Bool) (e : E) (h : Elem e = true) :
    ∀ i j, denG S d lg e i j = den S e i j := by
  induction e using E.rec
    (motive_2 := fun as => ElemList as = true → ∀ i j,
      denGSum S d lg as i j = denSum S as i j ∧ denGProd S d lg as i j = denProd S as i j) with
  | num _ _ => intro i j; simp only [denG, den]
  | cst _ => intro i j; simp only [denG, den]
  | sym _ => intro i j; simp only [denG, den]
  | add as ih => intro i j; simp only [Elem] at h; simp only [denG, den]; exact (ih h i j).1
  | mul as ih => intro i j; simp only [Elem] at h; simp only [denG, den]; exact (ih h i j).2
  | pow b e ihb ihe =>
    intro i j
    simp only [Elem, Bool.and_eq_true] at h
    simp only [denG, den]
    rw [ihb h.1 i j, ihe h.2 i j]
  | fn f a ih =>
    intro i j
    simp only [Elem, Bool.and_eq_true] at h
    simp only [denG, den]
    rw [ih h.2 i j]
  | nil => exact ⟨rfl, rfl⟩
  | cons a as iha ihas =>
    rename_i h i j
    simp only [ElemList, Bool.and_eq_true] at h
    constructor
    · simp only [denGSum, denSum]; rw [iha h.1 i j, (ihas h.2 i j).1]
    · simp only [denGProd, denProd]; rw [iha h.1 i j, (ihas h.2 i j).2]
  | _ => simp [Elem] at h

def isZero : E → Bool
  | num 0 1 => true
  | _ => false

theorem den_of_isZero (S : DRing K) (a : E) (h : isZero a = true) (i j : Nat) : den S a i j = 0 := by
  unfold isZero at h
  split at h
  · exact den_zero S i j
  · cases h

theorem Elem_mulS {a b : E} (ha : Elem a = true) (hb : Elem b = true) : Elem (mulS a b) = true := by
  unfold mulS
  split
  · exact hb
  · split
    · exact ha
    · simp only [Elem, ElemList, ha, hb, Bool.and_self]

/-- two fractions of elementary expressions are the same: both numerators zero, equal numerators over equal
    denominators, or else equal cross products (as polynomials in their atoms) -/
def sameFr (f g : Fr) : Bool :=
  Elem f.n && Elem f.d && Elem g.n && Elem g.d &&
    if isZero g.n then RingEq.ringZero 0 f.n
    else if RingEq.ringEq 0 f.d g.d then RingEq.ringEq 0 f.n g.n
    else RingEq.ringEq 0 (mulS f.n g.d) (mulS g.n f.d)

theorem eq_of_sameFr (S : DRing K) (v w : K) (f g : Fr) (hf : IsFrac S v f 0 0) (hg : IsFrac S w g 0 0)
    (h : sameFr f g = true) : v = w := by
  simp only [sameFr, Bool.and_eq_true] at h
  obtain ⟨⟨⟨⟨hfn, hfd⟩, hgn⟩, hgd⟩, h⟩ := h
  obtain ⟨hf1, hf2⟩ := hf
  obtain ⟨hg1, hg2⟩ := hg
  split at h
  · rename_i hz
    have hn := RingEq.ringZero_sound S 0 false _ h
    rw [denG_Elem S 0 false _ hfn] at hn
    rw [den_of_isZero S _ hz] at hg1
    linear_combination (den S f.di 0 0) * (hf1 + hn) - v * hf2 - (den S g.di 0 0) * hg1 + w * hg2
  split at h
  · rename_i hd
    have hd := RingEq.ringEq_sound S 0 false _ _ hd
    have hn := RingEq.ringEq_sound S 0 false _ _ h
    rw [denG_Elem S 0 false _ hfd, denG_Elem S 0 false _ hgd] at hd
    rw [denG_Elem S 0 false _ hfn, denG_Elem S 0 false _ hgn] at hn
    rw [← hd] at hg1
    linear_combination (den S f.di 0 0) * (hf1 - hg1 + hn) - (v - w) * hf2
  · have hn := RingEq.ringEq_sound S 0 false _ _ h
    rw [denG_Elem S 0 false _ (Elem_mulS hfn hgd), denG_Elem S 0 false _ (Elem_mulS hgn hfd), den_mulS, den_mulS] at hn
    linear_combination (den S f.di 0 0 * den S g.di 0 0) * ((den S g.d 0 0) * hf1 - (den S f.d 0 0) * hg1 + hn)
      - (v - w) * (den S g.d 0 0 * den S g.di 0 0) * hf2 - (v - w) * hg2

def sameValue (a b : E) : Bool := sameFr (asFrac a) (asFrac b)

theorem den_eq_of_sameValue (S : DRing K) (a b : E) (ha : NonDeg S a) (hb : NonDeg S b)
    (h : sameValue a b = true) : den S a 0 0 = den S b 0 0 :=
  eq_of_sameFr S _ _ _ _ (asFrac_sound S a ha 0 0) (asFrac_sound S b hb 0 0) h

/-- `sameValue` for two expressions that need no side condition -/
def valueOK (a b : E) : Bool := polyLike a && polyLike b && sameValue a b

theorem den_eq_of_valueOK (S : DRing K) (a b : E) (h : valueOK a b = true) : den S a 0 0 = den S b 0 0 := by
  simp only [valueOK, Bool.and_eq_true] at h
  exact den_eq_of_sameValue S a b (polyLike_nonDeg S a h.1.1) (polyLike_nonDeg S b h.1.2) h.2

mutual
/-- leave out the summands that are a literal zero and the products with such a factor: the model of `sympy.diff`
    writes the product rule out in full, and every summand left in would bring its denominators into the numerator
    that is compared -/
def prune : E → E
  | add as =>
      match (pruneList as).filter fun a => !isZero a with
      | [] => zero
      | l => add l
  | mul as => if (pruneList as).any isZero then zero else mul (pruneList as)
  | e => e
def pruneList : List E → List E
  | [] => []
  | a :: as => prune a :: pruneList as
end

theorem den_prune (S : DRing K) (e : E) : ∀ i j, den S (prune e) i j = den S e i j := by
  induction e using E.rec
    (motive_2 := fun as => ∀ i j,
      denSum S ((pruneList as).filter fun a => !isZero a) i j = denSum S as i j ∧
      denProd S (pruneList as) i j = denProd S as i j ∧
      ((pruneList as).any isZero = true → denProd S as i j = 0)) with
  | add as ih =>
    intro i j
    rw [den, ← (ih i j).1]
    simp only [prune]
    split
    · rename_i hl; rw [hl]; exact den_zero S i j
    · rfl
  | mul as ih =>
    intro i j
    simp only [prune]
    split
    · rename_i hz; rw [den_zero, den, (ih i j).2.2 hz]
    · rw [den, den, (ih i j).2.1]
  | nil => exact ⟨rfl, rfl, fun h => by cases h⟩
  | cons a as iha ihas =>
    rename_i i j
    obtain ⟨h1, h2, h3⟩ := ihas i j
    simp only [pruneList, List.filter_cons, List.any_cons, denSum, denProd, Bool.or_eq_true]
    refine ⟨?_, by rw [iha i j, h2], ?_⟩
    · cases hz : isZero (prune a) with
      | true => simp only [Bool.not_true, Bool.false_eq_true, if_false]; rw [h1, ← iha i j, den_of_isZero S _ hz, zero_add]
      | false => simp only [Bool.not_false, if_true, denSum]; rw [h1, iha i j]
    · rintro (hz | hz)
      · rw [← iha i j, den_of_isZero S _ hz, zero_mul]
      · rw [h3 hz, mul_zero]
  | _ => intro i j; rfl

/-- `j` is the derivative of `x` along `c`, as the model of `sympy.diff` computes it -/
def derivOK (c : Coord) (x j : E) : Bool := Elem x && polyLike x && valueOK j (prune (sdiff c x))

theorem den_of_derivOK (S : DRing K) (T : FnTable S) (c : Coord) (x j : E) (h : derivOK c x j = true) :
    den S j 0 0 = S.D c (den S x 0 0) := by
  simp only [derivOK, Bool.and_eq_true] at h
  rw [← sdiff_sound S T c x h.1.1 (polyLike_nonDeg S x h.1.2) 0 0, ← den_prune S (sdiff c x)]
  exact den_eq_of_valueOK S j _ h.2

theorem den_mat (S : DRing K) (r c : Nat) (es : List E) (i j : Nat) (hi : i < r) (hj : j < c) :
    den S (mat r c es) i j = den S (es.getD (i * c + j) zero) 0 0 := by
  simp only [den, hi, hj, and_self, if_true, denNth_getD]

theorem polyLike_getD (es : List E) (h : polyLikeList es = true) (k : Nat) : polyLike (es.getD k zero) = true := by
  induction es generalizing k with
  | nil => rfl
  | cons a as ih =>
    simp only [polyLikeList, Bool.and_eq_true] at h
    cases k with
    | zero => exact h.1
    | succ k => exact ih h.2 k

theorem NonDeg_getD (S : DRing K) (es : List E) (h : NonDegList S es) (k : Nat) : NonDeg S (es.getD k zero) := by
  induction es generalizing k with
  | nil => trivial
  | cons a as ih =>
    cases k with
    | zero => exact h.1
    | succ k => exact ih h.2 k

def allEntries (r c : Nat) (p : Nat → Nat → Bool) : Bool :=
  (List.range r).all fun i => (List.range c).all fun j => p i j

theorem of_allEntries {r c : Nat} {p : Nat → Nat → Bool} (h : allEntries r c p = true) {i j : Nat}
    (hi : i < r) (hj : j < c) : p i j = true := by
  simp only [allEntries, List.all_eq_true, List.mem_range] at h
  exact h i hi j hj

/-- the expression `Σ_{k<n} a k · b k` -/
def dotE (n : Nat) (a b : Nat → E) : E := add ((List.range n).map fun k => mul [a k, b k])

theorem den_dotE (S : DRing K) (n : Nat) (a b : Nat → E) :
    den S (dotE n a b) 0 0 = sumN n fun k => den S (a k) 0 0 * den S (b k) 0 0 := by
  simp only [dotE, den, denSum_map, List.map_map]
  induction n with
  | zero => rfl
  | succ n ih =>
    rw [List.range_succ, List.map_append, List.sum_append, ih]
    simp only [sumN, List.map_cons, List.map_nil, List.sum_cons, List.sum_nil, Function.comp_apply, den, denProd,
      mul_one, add_zero]

/-- determinants of the 1x1, 2x2 and 3x3 matrices of values -/
def detK (n : Nat) (a : Nat → Nat → K) : K :=
  match n with
  | 1 => a 0 0
  | 2 => a 0 0 * a 1 1 - a 0 1 * a 1 0
  | 3 => a 0 0 * (a 1 1 * a 2 2 - a 1 2 * a 2 1) - a 0 1 * (a 1 0 * a 2 2 - a 1 2 * a 2 0)
          + a 0 2 * (a 1 0 * a 2 1 - a 1 1 * a 2 0)
  | _ => 0

/-- the determinant `detK` as an expression over the entries `g i j` -/
def detE (n : Nat) (g : Nat → Nat → E) : E :=
  match n with
  | 1 => g 0 0
  | 2 => sub (mul [g 0 0, g 1 1]) (mul [g 0 1, g 1 0])
  | 3 => add [mul [g 0 0, sub (mul [g 1 1, g 2 2]) (mul [g 1 2, g 2 1])],
              neg (mul [g 0 1, sub (mul [g 1 0, g 2 2]) (mul [g 1 2, g 2 0])]),
              mul [g 0 2, sub (mul [g 1 0, g 2 1]) (mul [g 1 1, g 2 0])]]
  | _ => zero

theorem den_detE (S : DRing K) (n : Nat) (g : Nat → Nat → E) :
    den S (detE n g) 0 0 = detK n fun i j => den S (g i j) 0 0 := by
  unfold detE detK
  split
  · rfl
  · simp only [E.sub, E.neg, den, denSum, denProd, algebraMap_int_div_one_map]; ring
  · simp only [E.sub, E.neg, den, denSum, denProd, algebraMap_int_div_one_map]; ring
  · exact den_zero S 0 0

omit [Algebra ℚ K] in
theorem detK_congr (n : Nat) (a b : Nat → Nat → K) (h : ∀ i j, i < n → j < n → a i j = b i j) :
    detK n a = detK n b := by
  unfold detK
  split
  · exact h 0 0 Nat.one_pos Nat.one_pos
  · rw [h 0 0, h 0 1, h 1 0, h 1 1] <;> decide
  · rw [h 0 0, h 0 1, h 0 2, h 1 0, h 1 1, h 1 2, h 2 0, h 2 1, h 2 2] <;> decide
  · rfl

/-- `f + g`, over the common denominator when the two denominators are the same expression (the entries of a
    stored inverse often share theirs; multiplying them up would only inflate the numerator) -/
def addFr (f g : Fr) : Fr :=
  if Sub.eqb f.d g.d then ⟨add [f.n, g.n], f.d, f.di⟩
  else ⟨add [mulS f.n g.d, mulS g.n f.d], mulS f.d g.d, mulS f.di g.di⟩

theorem isFrac_addFr (S : DRing K) (v w : K) (f g : Fr) (i j : Nat) (hf : IsFrac S v f i j) (hg : IsFrac S w g i j) :
    IsFrac S (v + w) (addFr f g) i j := by
  obtain ⟨hf1, hf2⟩ := hf
  obtain ⟨hg1, hg2⟩ := hg
  unfold addFr
  split
  · rename_i hd
    rw [← Sub.eqb_eq _ _ hd] at hg1
    exact ⟨by simp only [den, denSum]; linear_combination hf1 + hg1, hf2⟩
  · simp only [IsFrac, den_mulS, den_add2]
    exact ⟨by linear_combination (den S g.d i j) * hf1 + (den S f.d i j) * hg1,
      by linear_combination (den S g.d i j * den S g.di i j) * hf2 + hg2⟩

/-- `Σ_{k<n} a k · b k` as a fraction; terms with a literal zero factor are left out -/
def dotFr (a b : Nat → E) : Nat → Fr
  | 0 => ⟨zero, one, one⟩
  | n + 1 => if isZero (a n) || isZero (b n) then dotFr a b n else addFr (dotFr a b n) (asFrac (mul [a n, b n]))

theorem isFrac_dotFr (S : DRing K) (a b : Nat → E) (ha : ∀ k, NonDeg S (a k)) (hb : ∀ k, NonDeg S (b k)) (n : Nat) :
    IsFrac S (sumN n fun k => den S (a k) 0 0 * den S (b k) 0 0) (dotFr a b n) 0 0 := by
  induction n with
  | zero => simp [dotFr, sumN, IsFrac, den_zero, den_one]
  | succ n ih =>
    simp only [dotFr, sumN]
    split
    · rename_i hz
      rcases Bool.or_eq_true_iff.mp hz with hz | hz
      · rw [den_of_isZero S _ hz, zero_mul, add_zero]; exact ih
      · rw [den_of_isZero S _ hz, mul_zero, add_zero]; exact ih
    · have hm := asFrac_sound S (mul [a n, b n]) ⟨ha n, hb n, trivial⟩ 0 0
      rw [den_mul2] at hm
      exact isFrac_addFr S _ _ _ _ 0 0 ih hm

/-! ### the same modulo rewriting rules

Square roots (CzarnyMapping) are atoms related by facts that are hypotheses (`b^(-1/2) · b^(1/2) = 1`, …).  Such a fact
is used as a rule `(l, r)` with `den l = den r`: both sides of the wanted equation are rewritten before they are
compared.  The rewritten expressions need their own side conditions; `invBases` lists the bases of negative powers,
so that these are found among those of the hypotheses by evaluation. -/

def IsInv (S : DRing K) (u : E) : Prop := ∀ i j, den S u i j * S.inv (den S u i j) = 1

mutual
/-- the bases of the negative integer powers: `NonDeg` says that each of them is invertible -/
def invBases : E → List E
  | pow b e =>
      (match intLit e with
        | some (Int.negSucc _) => [b]
        | _ => []) ++ (invBases b ++ invBases e)
  | add as => invBasesList as
  | mul as => invBasesList as
  | fn _ a => invBases a
  | pd _ a => invBases a
  | idx b _ => invBases b
  | mat _ _ es => invBasesList es
  | tup as => invBasesList as
  | op1 _ a => invBases a
  | op2 _ a b => invBases a ++ invBases b
  | other _ as => invBasesList as
  | _ => []
def invBasesList : List E → List E
  | [] => []
  | a :: as => invBases a ++ invBasesList as
end

theorem NonDeg_iff_invBases (S : DRing K) (e : E) : NonDeg S e ↔ ∀ u ∈ invBases e, IsInv S u := by
  induction e using E.rec
    (motive_2 := fun as => NonDegList S as ↔ ∀ u ∈ invBasesList as, IsInv S u) with
  | pow b e ihb ihe =>
    simp only [NonDeg, invBases, List.mem_append, or_imp, forall_and, ihb, ihe]
    cases intLit e with
    | none => simp
    | some n => cases n <;> simp [IsInv]
  | add as ih => simpa only [NonDeg, invBases] using ih
  | mul as ih => simpa only [NonDeg, invBases] using ih
  | fn f a ih => simpa only [NonDeg, invBases] using ih
  | pd c a ih => simpa only [NonDeg, invBases] using ih
  | idx b k ih => simpa only [NonDeg, invBases] using ih
  | mat r c es ih => simpa only [NonDeg, invBases] using ih
  | tup as ih => simpa only [NonDeg, invBases] using ih
  | op1 o a ih => simpa only [NonDeg, invBases] using ih
  | op2 o a b iha ihb => simp only [NonDeg, invBases, List.mem_append, or_imp, forall_and, iha, ihb]
  | other t as ih => simpa only [NonDeg, invBases] using ih
  | nil => simp [NonDegList, invBasesList]
  | cons a as iha ihas => simp only [NonDegList, invBasesList, List.mem_append, or_imp, forall_and, iha, ihas]
  | _ => simp [NonDeg, invBases]

theorem NonDegList_iff_invBasesList (S : DRing K) (es : List E) :
    NonDegList S es ↔ ∀ u ∈ invBasesList es, IsInv S u := by
  have := NonDeg_iff_invBases S (add es)
  simpa only [NonDeg, invBases] using this

/-- every base that `e` inverts is one of `units` -/
def covered (units : List E) (e : E) : Bool := (invBases e).all fun u => units.any (Sub.eqb u)

theorem NonDeg_of_covered (S : DRing K) (units : List E) (hu : ∀ u ∈ units, IsInv S u) (e : E)
    (h : covered units e = true) : NonDeg S e := by
  rw [NonDeg_iff_invBases]
  intro u hm
  simp only [covered, List.all_eq_true, List.any_eq_true] at h
  obtain ⟨v, hv, he⟩ := h u hm
  rw [Sub.eqb_eq u v he]
  exact hu v hv

mutual
/-- replace the outermost subterms that are a key of `σ` by its value; exponents are left alone -/
def rewr (σ : Sub.Rule) : E → E
  | add as => (Sub.lookup σ (add as)).getD (add (rewrList σ as))
  | mul as => (Sub.lookup σ (mul as)).getD (mul (rewrList σ as))
  | pow b e => (Sub.lookup σ (pow b e)).getD (pow (rewr σ b) e)
  | fn f a => (Sub.lookup σ (fn f a)).getD (fn f (rewr σ a))
  | e => (Sub.lookup σ e).getD e
def rewrList (σ : Sub.Rule) : List E → List E
  | [] => []
  | a :: as => rewr σ a :: rewrList σ as
end

def Holds (S : DRing K) (σ : Sub.Rule) : Prop := ∀ p ∈ σ, den S p.1 0 0 = den S p.2 0 0

theorem Holds.nil (S : DRing K) : Holds S [] := fun _ h => nomatch h

theorem Holds.cons {S : DRing K} {a b : E} {σ : Sub.Rule} (h : den S a 0 0 = den S b 0 0) (hσ : Holds S σ) :
    Holds S ((a, b) :: σ) := by
  intro p hp
  rcases List.mem_cons.mp hp with rfl | hp
  · exact h
  · exact hσ p hp

theorem den_lookup (S : DRing K) (σ : Sub.Rule) (hσ : Holds S σ) (e e' : E) (h : den S e' 0 0 = den S e 0 0) :
    den S ((Sub.lookup σ e).getD e') 0 0 = den S e 0 0 := by
  cases hl : Sub.lookup σ e with
  | none => exact h
  | some v => exact (hσ _ (Sub.lookup_some hl)).symm

theorem den_rewr (S : DRing K) (σ : Sub.Rule) (hσ : Holds S σ) (e : E) : den S (rewr σ e) 0 0 = den S e 0 0 := by
  induction e using E.rec
    (motive_2 := fun as => denSum S (rewrList σ as) 0 0 = denSum S as 0 0 ∧
      denProd S (rewrList σ as) 0 0 = denProd S as 0 0) with
  | add as ih => simp only [rewr]; exact den_lookup S σ hσ _ _ (by simp only [den]; exact ih.1)
  | mul as ih => simp only [rewr]; exact den_lookup S σ hσ _ _ (by simp only [den]; exact ih.2)
  | pow b e ihb _ => simp only [rewr]; exact den_lookup S σ hσ _ _ (by simp only [den]; rw [ihb])
  | fn f a ih => simp only [rewr]; exact den_lookup S σ hσ _ _ (by simp only [den]; rw [ih])
  | nil => exact ⟨rfl, rfl⟩
  | cons a as iha ihas =>
    simp only [rewrList, denSum, denProd]
    rw [iha, ihas.1, ihas.2]
    exact ⟨rfl, rfl⟩
  | _ => simp only [rewr]; exact den_lookup S σ hσ _ _ rfl

/-- `sameValue` after rewriting with `σ`, the side conditions of the rewritten expressions being among those of the
    expressions `hs` -/
def sameValueσ (σ : Sub.Rule) (hs : List E) (a b : E) : Bool :=
  covered (invBasesList hs) (rewr σ a) && covered (invBasesList hs) (rewr σ b) && sameValue (rewr σ a) (rewr σ b)

theorem den_eq_of_sameValueσ (S : DRing K) (σ : Sub.Rule) (hσ : Holds S σ) (hs : List E) (hh : NonDegList S hs)
    (a b : E) (h : sameValueσ σ hs a b = true) : den S a 0 0 = den S b 0 0 := by
  simp only [sameValueσ, Bool.and_eq_true] at h
  have hu := (NonDegList_iff_invBasesList S hs).1 hh
  rw [← den_rewr S σ hσ a, ← den_rewr S σ hσ b]
  exact den_eq_of_sameValue S _ _ (NonDeg_of_covered S _ hu _ h.1.1) (NonDeg_of_covered S _ hu _ h.1.2) h.2

theorem isInv_of_mem (S : DRing K) (e : E) (h : NonDeg S e) (u : E) (hm : (invBases e).any (Sub.eqb u) = true) :
    IsInv S u := by
  obtain ⟨v, hv, he⟩ := List.any_eq_true.mp hm
  rw [Sub.eqb_eq u v he]
  exact (NonDeg_iff_invBases S e).1 h v hv

/-- from `√b · √b = b` and `b^(-1/2) · √b = 1`, where `b` is inverted: `b^(-1/2) = √b · b⁻¹` and `b⁻¹ = b^(-1/2) · b^(-1/2)` -/
theorem rsqrt_rule (S : DRing K) (b : E)
    (h0 : den S (pow b (num 1 2)) 0 0 * den S (pow b (num 1 2)) 0 0 = den S b 0 0)
    (h1 : den S (pow b (num (-1) 2)) 0 0 * den S (pow b (num 1 2)) 0 0 ^ 1 = 1) (hb : IsInv S b) :
    den S (pow b (num (-1) 2)) 0 0 = den S (mul [pow b (num 1 2), pow b (num (-1) 1)]) 0 0 := by
  have hi : den S (pow b (num (-1) 1)) 0 0 = S.inv (den S b 0 0) := den_invE S b 0 0
  rw [den_mul2, hi]
  linear_combination (-(den S (pow b (num (-1) 2)) 0 0)) * hb 0 0
    - (den S (pow b (num (-1) 2)) 0 0 * S.inv (den S b 0 0)) * h0
    + (den S (pow b (num 1 2)) 0 0 * S.inv (den S b 0 0)) * h1

theorem inv_rule (S : DRing K) (b : E)
    (h0 : den S (pow b (num 1 2)) 0 0 * den S (pow b (num 1 2)) 0 0 = den S b 0 0)
    (h1 : den S (pow b (num (-1) 2)) 0 0 * den S (pow b (num 1 2)) 0 0 ^ 1 = 1) (hb : IsInv S b) :
    den S (pow b (num (-1) 1)) 0 0 = den S (mul [pow b (num (-1) 2), pow b (num (-1) 2)]) 0 0 := by
  have hi : den S (pow b (num (-1) 1)) 0 0 = S.inv (den S b 0 0) := den_invE S b 0 0
  rw [den_mul2, hi]
  linear_combination (den S (pow b (num (-1) 2)) 0 0 ^ 2) * hb 0 0
    + (den S (pow b (num (-1) 2)) 0 0 ^ 2 * S.inv (den S b 0 0)) * h0
    - (S.inv (den S b 0 0) * (den S (pow b (num (-1) 2)) 0 0 * den S (pow b (num 1 2)) 0 0 + 1)) * h1

/-! ### the four facts about the stored tables of a mapping

`xs` are the `pd` coordinate expressions, `js` the `pd × ld` stored Jacobian, `gs` the `ld × ld` stored metric,
`dg` its stored determinant and `is` the stored inverse Jacobian, all row major. -/

def jacOK (pd ld : Nat) (xs js : List E) : Bool :=
  allEntries pd ld fun i j => derivOK (Coord.ofIdx true j) (xs.getD i zero) (js.getD (i * ld + j) zero)

theorem jac_of_jacOK (S : DRing K) (T : FnTable S) (pd ld : Nat) (xs js : List E) (h : jacOK pd ld xs js = true)
    (i j : Nat) (hi : i < pd) (hj : j < ld) :
    den S (mat pd ld js) i j = S.D (Coord.ofIdx true j) (den S (mat pd 1 xs) i 0) := by
  rw [den_mat S pd ld js i j hi hj, den_mat S pd 1 xs i 0 hi Nat.one_pos, Nat.mul_one, Nat.add_zero]
  exact den_of_derivOK S T _ _ _ (of_allEntries h hi hj)

def gramOK (pd ld : Nat) (js gs : List E) : Bool :=
  allEntries ld ld fun i j =>
    valueOK (gs.getD (i * ld + j) zero) (dotE pd (fun k => js.getD (k * ld + i) zero) fun k => js.getD (k * ld + j) zero)

theorem gram_of_gramOK (S : DRing K) (pd ld : Nat) (js gs : List E) (h : gramOK pd ld js gs = true)
    (i j : Nat) (hi : i < ld) (hj : j < ld) :
    den S (mat ld ld gs) i j = sumN pd fun k => den S (mat pd ld js) k i * den S (mat pd ld js) k j := by
  rw [den_mat S ld ld gs i j hi hj, den_eq_of_valueOK S _ _ (of_allEntries h hi hj), den_dotE]
  exact sumN_congr pd _ _ fun k hk => by rw [den_mat S pd ld js k i hk hi, den_mat S pd ld js k j hk hj]

def detOK (n : Nat) (gs : List E) (dg : E) : Bool := valueOK dg (detE n fun i j => gs.getD (i * n + j) zero)

theorem det_of_detOK (S : DRing K) (n : Nat) (gs : List E) (dg : E) (h : detOK n gs dg = true) :
    den S dg 0 0 = detK n fun i j => den S (mat n n gs) i j := by
  rw [den_eq_of_valueOK S _ _ h, den_detE]
  exact detK_congr n _ _ fun i j hi hj => (den_mat S n n gs i j hi hj).symm

/-! with rewriting rules `σ` that hold in `S`, for tables whose entries need side conditions -/

def jacOKσ (σ : Sub.Rule) (pd ld : Nat) (xs js : List E) : Bool :=
  allEntries pd ld fun i j =>
    Elem (xs.getD i zero) &&
      sameValueσ σ [mat pd ld js, sdiff (Coord.ofIdx true j) (xs.getD i zero)] (js.getD (i * ld + j) zero)
        (prune (sdiff (Coord.ofIdx true j) (xs.getD i zero)))

theorem jac_of_jacOKσ (S : DRing K) (T : FnTable S) (σ : Sub.Rule) (hσ : Holds S σ) (pd ld : Nat) (xs js : List E)
    (hX : NonDeg S (mat pd 1 xs)) (hJ : NonDeg S (mat pd ld js))
    (hd : ∀ i j, i < pd → j < ld → NonDeg S (sdiff (Coord.ofIdx true j) (xs.getD i zero)))
    (h : jacOKσ σ pd ld xs js = true) (i j : Nat) (hi : i < pd) (hj : j < ld) :
    den S (mat pd ld js) i j = S.D (Coord.ofIdx true j) (den S (mat pd 1 xs) i 0) := by
  rw [den_mat S pd ld js i j hi hj, den_mat S pd 1 xs i 0 hi Nat.one_pos, Nat.mul_one, Nat.add_zero]
  have h' := of_allEntries h hi hj
  simp only [Bool.and_eq_true] at h'
  rw [← sdiff_sound S T _ _ h'.1 (NonDeg_getD S xs hX i) 0 0, ← den_prune S (sdiff _ _)]
  exact den_eq_of_sameValueσ S σ hσ [mat pd ld js, sdiff (Coord.ofIdx true j) (xs.getD i zero)]
    (And.intro hJ (And.intro (hd i j hi hj) trivial)) _ _ h'.2

def gramOKσ (σ : Sub.Rule) (pd ld : Nat) (js gs : List E) : Bool :=
  allEntries ld ld fun i j =>
    sameValueσ σ [mat pd ld js, mat ld ld gs] (gs.getD (i * ld + j) zero)
      (dotE pd (fun k => js.getD (k * ld + i) zero) fun k => js.getD (k * ld + j) zero)

theorem gram_of_gramOKσ (S : DRing K) (σ : Sub.Rule) (hσ : Holds S σ) (pd ld : Nat) (js gs : List E)
    (hJ : NonDeg S (mat pd ld js)) (hG : NonDeg S (mat ld ld gs)) (h : gramOKσ σ pd ld js gs = true)
    (i j : Nat) (hi : i < ld) (hj : j < ld) :
    den S (mat ld ld gs) i j = sumN pd fun k => den S (mat pd ld js) k i * den S (mat pd ld js) k j := by
  rw [den_mat S ld ld gs i j hi hj,
    den_eq_of_sameValueσ S σ hσ [mat pd ld js, mat ld ld gs] (And.intro hJ (And.intro hG trivial)) _ _
      (of_allEntries h hi hj), den_dotE]
  exact sumN_congr pd _ _ fun k hk => by rw [den_mat S pd ld js k i hk hi, den_mat S pd ld js k j hk hj]

def invOK (n : Nat) (js is : List E) : Bool :=
  polyLikeList js && allEntries n n fun i j =>
    sameFr (dotFr (fun k => js.getD (i * n + k) zero) (fun k => is.getD (k * n + j) zero) n)
      (asFrac (if i = j then one else zero))

theorem inv_of_invOK (S : DRing K) (n : Nat) (js is : List E) (hI : NonDeg S (mat n n is))
    (h : invOK n js is = true) (i j : Nat) (hi : i < n) (hj : j < n) :
    (sumN n fun k => den S (mat n n js) i k * den S (mat n n is) k j) = if i = j then 1 else 0 := by
  simp only [invOK, Bool.and_eq_true] at h
  have hf := isFrac_dotFr S (fun k => js.getD (i * n + k) zero) (fun k => is.getD (k * n + j) zero)
    (fun k => polyLike_nonDeg S _ (polyLike_getD js h.1 _)) (fun k => NonDeg_getD S is hI _) n
  have hd : NonDeg S (if i = j then one else zero) := by split <;> trivial
  have hv : den S (if i = j then one else zero) 0 0 = if i = j then 1 else 0 := by
    split
    · exact den_one S 0 0
    · exact den_zero S 0 0
  rw [← hv, ← eq_of_sameFr S _ _ _ _ hf (asFrac_sound S _ hd 0 0) (of_allEntries h.2 hi hj)]
  exact sumN_congr n _ _ fun k hk => by rw [den_mat S n n js i k hi hk, den_mat S n n is k j hk hj]

end Sympde

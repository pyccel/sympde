/-
  Semantics of the symbolic matrix expressions of Model/MatSym.lean and the lemmas behind
  Props/C02d.lean.

  `den v e` is the value of `e` in the ring of n×n matrices over an arbitrary commutative ring K:
  Jacobian symbols are interpreted by an arbitrary valuation, the inverse-Jacobian atom and
  `Inverse` by the (nonsingular) matrix inverse, numbers / Constants / Symbols / traces /
  determinants / elements by scalar matrices (so that "scalar times matrix" is the matrix product,
  and one semantics serves matrix-valued and number-valued expressions).
-/
import SympdeModel.Model.MatSym
import Mathlib.LinearAlgebra.Matrix.ZPow
import Mathlib.LinearAlgebra.Matrix.Trace
import Mathlib.Algebra.BigOperators.Group.List.Lemmas

namespace Sympde
namespace MatSym
open ME
open scoped Matrix

/-- valuation: Constants, Symbols, Jacobian symbols -/
structure Val (n : ℕ) (K : Type) where
  cst : String → K
  sy : String → K
  jm : String → Matrix (Fin n) (Fin n) K

variable {n : ℕ} {K : Type} [CommRing K]

/-- entry (i, j) of a matrix, 0 outside the index range -/
def entry (M : Matrix (Fin n) (Fin n) K) (i j : ℕ) : K :=
  if h : i < n ∧ j < n then M ⟨i, h.1⟩ ⟨j, h.2⟩ else 0

mutual
noncomputable def den (v : Val n K) : ME → Matrix (Fin n) (Fin n) K
  | num k => (k : K) • (1 : Matrix (Fin n) (Fin n) K)
  | sym s => v.cst s • (1 : Matrix (Fin n) (Fin n) K)
  | var s => v.sy s • (1 : Matrix (Fin n) (Fin n) K)
  | jac s => v.jm s
  | jinv s => (v.jm s)⁻¹
  | add xs => denSum v xs
  | mul xs => denProd v xs
  | pow b k _ => den v b ^ k
  | transpose a => (den v a)ᵀ
  | inv a => (den v a)⁻¹
  | tr a => (den v a).trace • (1 : Matrix (Fin n) (Fin n) K)
  | det a => (den v a).det • (1 : Matrix (Fin n) (Fin n) K)
  | elem a i j => entry (den v a) i j • (1 : Matrix (Fin n) (Fin n) K)
noncomputable def denSum (v : Val n K) : List ME → Matrix (Fin n) (Fin n) K
  | [] => 0
  | a :: as => den v a + denSum v as
noncomputable def denProd (v : Val n K) : List ME → Matrix (Fin n) (Fin n) K
  | [] => 1
  | a :: as => den v a * denProd v as
end

variable (v : Val n K)

theorem denSum_eq (xs : List ME) : denSum v xs = (xs.map (den v)).sum := by
  induction xs with
  | nil => simp [denSum]
  | cons a as ih => simp [denSum, ih]

theorem denProd_eq (xs : List ME) : denProd v xs = (xs.map (den v)).prod := by
  induction xs with
  | nil => simp [denProd]
  | cons a as ih => simp [denProd, ih]

theorem denSum_append (xs ys : List ME) : denSum v (xs ++ ys) = denSum v xs + denSum v ys := by
  simp [denSum_eq]

theorem denProd_append (xs ys : List ME) : denProd v (xs ++ ys) = denProd v xs * denProd v ys := by
  simp [denProd_eq]

/-! ### central, symmetric matrices: the values of the commutative expressions -/

/-- commutes with every matrix and is symmetric (true of every scalar matrix) -/
def Cen (M : Matrix (Fin n) (Fin n) K) : Prop := (∀ N : Matrix (Fin n) (Fin n) K, Commute M N) ∧ Mᵀ = M

theorem cen_smul_one (k : K) : Cen (k • (1 : Matrix (Fin n) (Fin n) K)) := by
  refine ⟨fun N => ?_, ?_⟩
  · exact (Commute.one_left N).smul_left k
  · simp

theorem cen_zero : Cen (0 : Matrix (Fin n) (Fin n) K) := ⟨fun N => Commute.zero_left N, by simp⟩
theorem cen_one : Cen (1 : Matrix (Fin n) (Fin n) K) := ⟨fun N => Commute.one_left N, by simp⟩

theorem Cen.add {A B : Matrix (Fin n) (Fin n) K} (ha : Cen A) (hb : Cen B) : Cen (A + B) :=
  ⟨fun N => (ha.1 N).add_left (hb.1 N), by rw [Matrix.transpose_add, ha.2, hb.2]⟩

theorem Cen.mul {A B : Matrix (Fin n) (Fin n) K} (ha : Cen A) (hb : Cen B) : Cen (A * B) :=
  ⟨fun N => (ha.1 N).mul_left (hb.1 N), by rw [Matrix.transpose_mul, ha.2, hb.2]; exact (ha.1 B).eq.symm⟩

theorem Cen.zpow {A : Matrix (Fin n) (Fin n) K} (ha : Cen A) (k : ℤ) : Cen (A ^ k) :=
  ⟨fun N => Matrix.Commute.zpow_left (ha.1 N) k, by rw [Matrix.transpose_zpow, ha.2]⟩

theorem commL_iff (xs : List ME) : commL xs = true ↔ ∀ x ∈ xs, comm x = true := by
  induction xs with
  | nil => simp [commL]
  | cons a as ih => simp [commL, ih]

theorem cen_of_comm (a : ME) : comm a = true → Cen (den v a) := by
  induction a using ME.rec
    (motive_2 := fun xs => commL xs = true → Cen (denSum v xs) ∧ Cen (denProd v xs)) with
  | num k => intro _; simp only [den]; exact cen_smul_one _
  | sym s => intro _; simp only [den]; exact cen_smul_one _
  | var s => intro _; simp only [den]; exact cen_smul_one _
  | jac s => intro h; simp [comm] at h
  | jinv s => intro h; simp [comm] at h
  | add xs ih => intro h; simp only [comm] at h; simpa [den] using (ih h).1
  | mul xs ih => intro h; simp only [comm] at h; simpa [den] using (ih h).2
  | pow b k r ih => intro h; simp only [comm] at h; simpa [den] using (ih h).zpow k
  | transpose a _ => intro h; simp [comm] at h
  | inv a _ => intro h; simp [comm] at h
  | tr a _ => intro _; simp only [den]; exact cen_smul_one _
  | det a _ => intro _; simp only [den]; exact cen_smul_one _
  | elem a i j _ => intro h; simp [comm] at h
  | nil => exact ⟨by simpa [denSum] using cen_zero, by simpa [denProd] using cen_one⟩
  | cons a as iha ihas =>
    rename_i h
    simp only [commL, Bool.and_eq_true] at h
    exact ⟨by simpa [denSum] using (iha h.1).add (ihas h.2).1,
           by simpa [denProd] using (iha h.1).mul (ihas h.2).2⟩

theorem cen_denProd' (xs : List ME) (h : ∀ x ∈ xs, Cen (den v x)) : Cen (denProd v xs) := by
  induction xs with
  | nil => simpa [denProd] using cen_one
  | cons a as ih =>
    simp only [denProd]
    exact (h a (by simp)).mul (ih (fun x hx => h x (by simp [hx])))

theorem cen_denProd (xs : List ME) (h : ∀ x ∈ xs, comm x = true) : Cen (denProd v xs) :=
  cen_denProd' v xs (fun x hx => cen_of_comm v x (h x hx))

/-! ### sympy equality gives equal values -/

theorem den_eq_of_beq (a b : ME) (h : (a == b) = true) : den v a = den v b := by
  change beq a b = true at h
  induction a using ME.rec
    (motive_2 := fun xs => ∀ ys, beqL xs ys = true →
      denSum v xs = denSum v ys ∧ denProd v xs = denProd v ys)
    generalizing b with
  | num k =>
    cases b with
    | num k' => rw [(beq_iff_eq (a := k)).mp h]
    | _ => exact Bool.noConfusion h
  | sym s =>
    cases b with
    | sym s' => rw [(beq_iff_eq (a := s)).mp h]
    | _ => exact Bool.noConfusion h
  | var s =>
    cases b with
    | var s' => rw [(beq_iff_eq (a := s)).mp h]
    | _ => exact Bool.noConfusion h
  | jac s =>
    cases b with
    | jac s' => rw [(beq_iff_eq (a := s)).mp h]
    | _ => exact Bool.noConfusion h
  | jinv s =>
    cases b with
    | jinv s' => rw [(beq_iff_eq (a := s)).mp h]
    | _ => exact Bool.noConfusion h
  | add xs ih =>
    cases b with
    | add ys => exact (ih ys h).1
    | _ => exact Bool.noConfusion h
  | mul xs ih =>
    cases b with
    | mul ys => exact (ih ys h).2
    | _ => exact Bool.noConfusion h
  | pow c k r ih =>
    cases b with
    | pow c' k' r' =>
      obtain ⟨hc, hk⟩ := Bool.and_eq_true_iff.mp h
      simp only [den]
      rw [ih c' hc, beq_iff_eq.mp hk]
    | _ => exact Bool.noConfusion h
  | transpose a ih =>
    cases b with
    | transpose a' => simp only [den]; rw [ih a' h]
    | _ => exact Bool.noConfusion h
  | inv a ih =>
    cases b with
    | inv a' => simp only [den]; rw [ih a' h]
    | _ => exact Bool.noConfusion h
  | tr a ih =>
    cases b with
    | tr a' => simp only [den]; rw [ih a' h]
    | _ => exact Bool.noConfusion h
  | det a ih =>
    cases b with
    | det a' => simp only [den]; rw [ih a' h]
    | _ => exact Bool.noConfusion h
  | elem a i j ih =>
    cases b with
    | elem a' i' j' =>
      obtain ⟨hai, hj⟩ := Bool.and_eq_true_iff.mp h
      obtain ⟨ha, hi⟩ := Bool.and_eq_true_iff.mp hai
      simp only [den]
      rw [ih a' ha, beq_iff_eq.mp hi, beq_iff_eq.mp hj]
    | _ => exact Bool.noConfusion h
  | nil =>
    rename_i ys h
    cases ys with
    | nil => exact ⟨rfl, rfl⟩
    | cons y ys => exact Bool.noConfusion h
  | cons a as iha ihas =>
    rename_i ys h
    cases ys with
    | nil => exact Bool.noConfusion h
    | cons y ys =>
      obtain ⟨ha, has⟩ := Bool.and_eq_true_iff.mp h
      simp only [denSum, denProd]
      rw [iha y ha, (ihas ys has).1, (ihas ys has).2]
      exact ⟨rfl, rfl⟩

/-! ### the canonical order -/

theorem insertK_perm (x : ME) (ys : List ME) : (insertK x ys).Perm (x :: ys) := by
  induction ys with
  | nil => simp [insertK]
  | cons y ys ih =>
    unfold insertK
    split
    · exact List.Perm.refl _
    · exact (List.Perm.cons y ih).trans (List.Perm.swap x y ys)

theorem sortK_perm (xs : List ME) : (sortK xs).Perm xs := by
  induction xs with
  | nil => simp [sortK]
  | cons a as ih =>
    have : sortK (a :: as) = insertK a (sortK as) := rfl
    rw [this]
    exact (insertK_perm a _).trans (List.Perm.cons a ih)

theorem denSum_perm {xs ys : List ME} (h : xs.Perm ys) : denSum v xs = denSum v ys := by
  rw [denSum_eq, denSum_eq]; exact (h.map (den v)).sum_eq

theorem denSum_sortK (xs : List ME) : denSum v (sortK xs) = denSum v xs := denSum_perm v (sortK_perm xs)

theorem denProd_perm {xs ys : List ME} (h : xs.Perm ys) (hc : ∀ x ∈ xs, comm x = true) :
    denProd v xs = denProd v ys := by
  rw [denProd_eq, denProd_eq]
  refine (h.map (den v)).prod_eq' ?_
  rw [List.pairwise_map]
  exact List.Pairwise.imp_of_mem (R := fun _ _ => True)
    (fun {a b} ha _ _ => (cen_of_comm v a (hc a ha)).1 (den v b)) (List.pairwise_of_forall (fun _ _ => trivial))

theorem denProd_sortK (xs : List ME) (hc : ∀ x ∈ xs, comm x = true) :
    denProd v (sortK xs) = denProd v xs :=
  (denProd_perm v (sortK_perm xs).symm hc).symm

theorem mem_sortK {xs : List ME} {x : ME} : x ∈ sortK xs ↔ x ∈ xs := (sortK_perm xs).mem_iff

/-! ### flattening -/

theorem denSum_flatAdd (xs : List ME) : denSum v (flatAdd xs) = denSum v xs := by
  induction xs with
  | nil => simp [flatAdd]
  | cons a as ih =>
    cases a <;> simp [flatAdd, denSum, denSum_append, ih, den]

theorem denProd_flatMul (xs : List ME) : denProd v (flatMul xs) = denProd v xs := by
  induction xs with
  | nil => simp [flatMul]
  | cons a as ih =>
    cases a <;> simp [flatMul, denProd, denProd_append, ih, den]

theorem comm_flatMul (xs : List ME) (h : ∀ x ∈ xs, comm x = true) : ∀ x ∈ flatMul xs, comm x = true := by
  induction xs with
  | nil => simp [flatMul]
  | cons a as ih =>
    have ha := h a (by simp)
    have ih' := ih (fun x hx => h x (by simp [hx]))
    cases a <;> simp only [flatMul, List.mem_cons, List.mem_append] <;> intro x hx
    case mul ys =>
      rcases hx with hx | hx
      · exact (commL_iff ys).1 (by simpa [comm] using ha) x hx
      · exact ih' x hx
    all_goals
      rcases hx with hx | hx
      · rw [hx]; exact ha
      · exact ih' x hx

/-! ### MatSymbolicAdd -/

theorem den_isZero {a : ME} (h : isZero a = true) : den v a = 0 := by
  cases a <;> simp_all [isZero, den]

theorem den_isOne {a : ME} (h : isOne a = true) : den v a = 1 := by
  cases a <;> simp_all [isOne, den]

theorem denSum_filter_isZero (xs : List ME) :
    denSum v (xs.filter (fun a => !isZero a)) = denSum v xs := by
  induction xs with
  | nil => simp
  | cons a as ih =>
    by_cases h : isZero a = true
    · simp [List.filter, h, denSum, ih, den_isZero v h]
    · simp [List.filter, h, denSum, ih]

theorem denProd_filter_isOne (xs : List ME) :
    denProd v (xs.filter (fun a => !isOne a)) = denProd v xs := by
  induction xs with
  | nil => simp
  | cons a as ih =>
    by_cases h : isOne a = true
    · simp [List.filter, h, denProd, ih, den_isOne v h]
    · simp [List.filter, h, denProd, ih]

theorem den_addOf (xs : List ME) : den v (addOf xs) = denSum v xs := by
  unfold addOf
  split
  · simp [den, denSum]
  · simp [denSum]
  · simp only [den]; exact denSum_sortK v xs

/-- MatSymbolicAdd(*args) denotes the sum of its arguments -/
theorem den_mkAdd (xs : List ME) : den v (mkAdd xs) = denSum v xs := by
  unfold mkAdd
  rw [den_addOf, denSum_flatAdd, denSum_filter_isZero]

/-! ### sympy Add: like terms -/

/-- value of the `terms` dictionary of Add.flatten -/
noncomputable def termsVal (v : Val n K) : List (ME × Int) → Matrix (Fin n) (Fin n) K
  | [] => 0
  | (s, c) :: rest => (c : K) • den v s + termsVal v rest

theorem den_asCoeffMul (t : ME) : den v t = ((asCoeffMul t).1 : K) • den v (asCoeffMul t).2 := by
  unfold asCoeffMul
  split
  · simp [den, denProd]
  · simp [den, denProd]
  · simp

theorem termsVal_addTerm (s : ME) (c : Int) (ts : List (ME × Int)) :
    termsVal v (addTerm s c ts) = termsVal v ts + (c : K) • den v s := by
  induction ts with
  | nil => simp [addTerm, termsVal]
  | cons p rest ih =>
    obtain ⟨s', c'⟩ := p
    unfold addTerm
    by_cases h : (s' == s) = true
    · rw [if_pos h]
      simp only [termsVal]
      rw [← den_eq_of_beq v s' s h]
      push_cast
      rw [add_smul]; abel
    · rw [if_neg h]
      simp only [termsVal, ih]; abel

theorem den_collect (xs : List ME) :
    denSum v xs = ((collect xs).1 : K) • (1 : Matrix (Fin n) (Fin n) K) + termsVal v (collect xs).2 := by
  induction xs with
  | nil => simp [collect, denSum, termsVal]
  | cons a as ih =>
    have gen : ∀ t : ME, (∀ k, t ≠ num k) → collect (t :: as) =
        ((collect as).1, addTerm (asCoeffMul t).2 (asCoeffMul t).1 (collect as).2) := by
      intro t ht
      cases t with
      | num k => exact absurd rfl (ht k)
      | _ => rfl
    cases a with
    | num k =>
      simp only [collect, denSum, den, ih]
      push_cast
      rw [add_smul]; abel
    | _ =>
      rw [gen _ (by intro k hk; cases hk)]
      simp only [denSum, termsVal_addTerm, ih]
      rw [← den_asCoeffMul]; abel

theorem den_rebuild (s : ME) (c : Int) : den v (rebuild s c) = (c : K) • den v s := by
  unfold rebuild
  split <;> simp [den, denProd]

theorem denSum_rebuildAll (ts : List (ME × Int)) : denSum v (rebuildAll ts) = termsVal v ts := by
  induction ts with
  | nil => simp [rebuildAll, denSum, termsVal]
  | cons p rest ih =>
    obtain ⟨s, c⟩ := p
    unfold rebuildAll
    by_cases h0 : (c == 0) = true
    · have : c = 0 := by simpa using h0
      rw [if_pos h0, ih]; simp [termsVal, this]
    · rw [if_neg h0]
      by_cases h1 : (c == 1) = true
      · have : c = 1 := by simpa using h1
        rw [if_pos h1]; simp [denSum, termsVal, ih, this]
      · rw [if_neg h1]; simp [denSum, termsVal, ih, den_rebuild]

theorem den_sympyAddOf (xs : List ME) : den v (sympyAddOf xs) = denSum v xs := by
  unfold sympyAddOf
  split
  · simp [den, denSum]
  · simp [denSum]
  · split
    · exact den_mkAdd v xs
    · simp only [den]; exact denSum_sortK v xs

/-- sympy `Add(*terms)` (with the post-processor) denotes the sum of the terms -/
theorem den_sympyAdd (xs : List ME) : den v (sympyAdd xs) = denSum v xs := by
  unfold sympyAdd
  simp only
  rw [den_sympyAddOf, ← denSum_flatAdd v xs, den_collect v (flatAdd xs)]
  by_cases h0 : ((collect (flatAdd xs)).1 == 0) = true
  · have : (collect (flatAdd xs)).1 = 0 := by simpa using h0
    rw [if_pos h0, denSum_rebuildAll, this]; simp
  · rw [if_neg h0]; simp [denSum, den, denSum_rebuildAll]

/-! ### sympy Mul on commutative factors -/

omit v in
theorem splitNums_cons (t : ME) (as : List ME) (ht : ∀ k, t ≠ num k) :
    splitNums (t :: as) = ((splitNums as).1, t :: (splitNums as).2) := by
  cases t with
  | num k => exact absurd rfl (ht k)
  | _ => rfl

theorem den_splitNums (xs : List ME) :
    denProd v xs = ((splitNums xs).1 : K) • denProd v (splitNums xs).2 := by
  induction xs with
  | nil => simp [splitNums, denProd]
  | cons a as ih =>
    cases a with
    | num k =>
      simp only [splitNums, denProd, den]
      rw [ih]; push_cast
      rw [smul_mul_assoc, one_mul, smul_smul]
    | _ =>
      rw [splitNums_cons _ _ (by intro k hk; cases hk)]
      simp only [denProd]
      rw [ih, mul_smul_comm]

theorem mem_splitNums (xs : List ME) : ∀ x ∈ (splitNums xs).2, x ∈ xs := by
  induction xs with
  | nil => simp [splitNums]
  | cons a as ih =>
    cases a with
    | num k =>
      intro x hx
      simp only [splitNums] at hx
      exact List.mem_cons_of_mem _ (ih x hx)
    | _ =>
      rw [splitNums_cons _ _ (by intro k hk; cases hk)]
      intro x hx
      simp only [List.mem_cons] at hx ⊢
      rcases hx with hx | hx
      · exact Or.inl hx
      · exact Or.inr (ih x hx)

theorem den_scalOf (k : Int) (rest : List ME) : den v (scalOf k rest) = (k : K) • denProd v rest := by
  unfold scalOf
  by_cases h0 : (k == 0) = true
  · have : k = 0 := by simpa using h0
    rw [if_pos h0]; simp [den, this]
  · rw [if_neg h0]
    split
    · simp [den, denProd]
    · by_cases h1 : (k == 1) = true
      · have : k = 1 := by simpa using h1
        rw [if_pos h1]; simp [denProd, this]
      · rw [if_neg h1]; simp [den, denProd]
    · by_cases h1 : (k == 1) = true
      · have : k = 1 := by simpa using h1
        rw [if_pos h1]; simp [den, this]
      · rw [if_neg h1]; simp [den, denProd]

/-- sympy `Mul(*coeffs)` on commutative factors denotes their product -/
theorem den_scalMul (cs : List ME) (hc : ∀ x ∈ cs, comm x = true) :
    den v (scalMul cs) = denProd v cs := by
  unfold scalMul
  simp only
  rw [den_scalOf, denProd_sortK, ← den_splitNums, denProd_flatMul]
  intro x hx
  exact comm_flatMul cs hc x (mem_splitNums _ x hx)

theorem den_scalTimes (c t : ME) : den v (scalTimes c t) = den v c * den v t := by
  unfold scalTimes
  simp only
  rw [den_scalOf, ← den_splitNums, denProd_flatMul]
  simp [denProd]

/-! ### MatSymbolicMul -/

/-- the factors selected by `p` have central values: they can be moved to the front -/
theorem denProd_partition (p : ME → Bool) (xs : List ME) (hp : ∀ x ∈ xs, p x = true → Cen (den v x)) :
    denProd v xs = denProd v (xs.filter p) * denProd v (xs.filter (fun a => !p a)) := by
  induction xs with
  | nil => simp [denProd]
  | cons a as ih =>
    have ih' := ih (fun x hx => hp x (by simp [hx]))
    have hC : Cen (denProd v (as.filter p)) :=
      cen_denProd' v _ (fun x hx => hp x (by simp [(List.mem_filter.1 hx).1]) (List.mem_filter.1 hx).2)
    by_cases h : p a = true
    · simp only [List.filter, h, denProd, Bool.not_true]
      rw [ih', mul_assoc]
    · simp only [Bool.not_eq_true] at h
      simp only [List.filter, h, denProd, Bool.not_false]
      rw [ih', ← mul_assoc, ← mul_assoc, (hC.1 (den v a)).eq]

theorem splitAdd_some : ∀ (args pre p es post : List ME), splitAdd pre args = some (p, es, post) →
    pre.reverse ++ args = p ++ add es :: post := by
  intro args
  induction args with
  | nil => intro pre p es post h; simp [splitAdd] at h
  | cons a as ih =>
    intro pre p es post h
    have gen : (∀ ys, a ≠ add ys) → splitAdd pre (a :: as) = splitAdd (a :: pre) as := by
      intro ha
      cases a with
      | add ys => exact absurd rfl (ha ys)
      | _ => rfl
    cases a with
    | add ys =>
      simp only [splitAdd, Option.some.injEq, Prod.mk.injEq] at h
      obtain ⟨h1, h2, h3⟩ := h
      rw [← h1, ← h2, ← h3]
    | _ =>
      rw [gen (by intro ys hy; cases hy)] at h
      have := ih _ _ _ _ h
      simpa using this

theorem denSum_map_hom (F : Matrix (Fin n) (Fin n) K → Matrix (Fin n) (Fin n) K) (h0 : F 0 = 0)
    (hadd : ∀ A B, F (A + B) = F A + F B) (g : ME → ME) (es : List ME)
    (hg : ∀ e ∈ es, den v (g e) = F (den v e)) :
    denSum v (es.map g) = F (denSum v es) := by
  induction es with
  | nil => exact h0.symm
  | cons e es ih =>
    simp only [List.map, denSum]
    rw [hg e (by simp), ih (fun x hx => hg x (by simp [hx])), hadd]

theorem denProd_mid (p post : List ME) (e : ME) :
    denProd v (p ++ e :: post) = denProd v p * den v e * denProd v post := by
  rw [denProd_append]; simp [denProd, mul_assoc]

theorem den_mulOf (xs : List ME) : den v (mulOf xs) = denProd v xs := by
  unfold mulOf
  split <;> simp [den, denProd]

theorem denProd_spliceCoeff (c : ME) (ncs : List ME) :
    denProd v (spliceCoeff c ncs) = den v c * denProd v ncs := by
  unfold spliceCoeff
  split
  · simp [den, denProd_append]
  · split
    · rename_i h; simp [den_isOne v h]
    · simp [denProd]

theorem denProd_mulArgs (cs ncs : List ME) (hc : ∀ x ∈ cs, comm x = true) :
    denProd v (mulArgs cs ncs) = denProd v cs * denProd v ncs := by
  unfold mulArgs
  split
  · rename_i h
    have : cs = [] := by simpa using h
    simp [this, denProd]
  · split
    · rename_i h
      have : ncs = [] := by simpa using h
      simp [this, denProd, den_scalMul v cs hc]
    · rw [denProd_spliceCoeff, den_scalMul v cs hc]

/-- MatSymbolicMul(*args) denotes the ordered product of its arguments -/
theorem den_mkMul : ∀ (f : Nat) (xs : List ME), den v (mkMul f xs) = denProd v xs := by
  intro f
  induction f with
  | zero => intro xs; simp [mkMul, den]
  | succ f ih =>
    intro xs
    rw [← denProd_filter_isOne v xs, mkMul]
    simp only
    generalize xs.filter (fun a => !isOne a) = args
    split
    · rename_i p es post h
      have hs := splitAdd_some args [] p es post h
      simp only [List.reverse_nil, List.nil_append] at hs
      have key : denSum v (es.map (fun e => mkMul f (p ++ e :: post))) = denProd v args := by
        rw [denSum_map_hom v (fun M => denProd v p * M * denProd v post) (by simp)
          (fun A B => by simp only [mul_add, add_mul]) _ es (fun e _ => by rw [ih, denProd_mid]),
          hs, denProd_mid]
        simp [den]
      split
      · rw [den_mkAdd, key]
      · rw [den_sympyAdd, key]
    · rw [den_mulOf, denProd_mulArgs v _ _ (fun x hx => (List.mem_filter.1 hx).2),
        ← denProd_partition v comm _ (fun x _ hx => cen_of_comm v x hx), denProd_flatMul]

/-! ### sub-expressions, well-definedness -/

/-- `Sub a e`: `a` occurs in `e` -/
inductive Sub : ME → ME → Prop
  | refl (a : ME) : Sub a a
  | add {a x : ME} {xs : List ME} : x ∈ xs → Sub a x → Sub a (add xs)
  | mul {a x : ME} {xs : List ME} : x ∈ xs → Sub a x → Sub a (mul xs)
  | pow {a b : ME} {k : Int} {r : Bool} : Sub a b → Sub a (pow b k r)
  | transpose {a b : ME} : Sub a b → Sub a (transpose b)
  | inv {a b : ME} : Sub a b → Sub a (inv b)
  | tr {a b : ME} : Sub a b → Sub a (tr b)
  | det {a b : ME} : Sub a b → Sub a (det b)
  | elem {a b : ME} {i j : Nat} : Sub a b → Sub a (elem b i j)

/-- every negative power that occurs in `e` has an invertible base -/
def NegPowUnits (v : Val n K) (e : ME) : Prop :=
  ∀ b k r, Sub (pow b k r) e → k < 0 → IsUnit (den v b).det

/-- every `Inverse` node that occurs in `e` is applied to an invertible matrix -/
def InvUnits (v : Val n K) (e : ME) : Prop :=
  ∀ y, Sub (inv y) e → IsUnit (den v y).det

theorem NegPowUnits.of_add {xs : List ME} (h : NegPowUnits v (add xs)) : ∀ x ∈ xs, NegPowUnits v x :=
  fun _ hx b k r hs hk => h b k r (Sub.add hx hs) hk

theorem NegPowUnits.of_mul {xs : List ME} (h : NegPowUnits v (mul xs)) : ∀ x ∈ xs, NegPowUnits v x :=
  fun _ hx b k r hs hk => h b k r (Sub.mul hx hs) hk

theorem NegPowUnits.of_pow {b : ME} {k : Int} {r : Bool} (h : NegPowUnits v (pow b k r)) :
    NegPowUnits v b ∧ (k < 0 → IsUnit (den v b).det) :=
  ⟨fun b' k' r' hs hk => h b' k' r' (Sub.pow hs) hk, fun hk => h b k r (Sub.refl _) hk⟩

theorem NegPowUnits.mk_pow {b : ME} {k : Int} {r : Bool} (hb : NegPowUnits v b)
    (hk : k < 0 → IsUnit (den v b).det) : NegPowUnits v (pow b k r) := by
  intro b' k' r' hs hk'
  cases hs with
  | refl => exact hk hk'
  | pow hs' => exact hb b' k' r' hs' hk'

theorem negPowUnits_num (k : Int) : NegPowUnits v (num k) := by
  intro b k' r hs _; cases hs

/-! ### sympy Mul on non-commutative factors: neighbours with the same base -/

theorem den_asBaseExp (x : ME) : den v x = den v (asBaseExp x).1 ^ (asBaseExp x).2.1 := by
  cases x <;> simp [asBaseExp, den]

theorem negPowUnits_asBaseExp {x : ME} (h : NegPowUnits v x) :
    NegPowUnits v (asBaseExp x).1 ∧ ((asBaseExp x).2.1 < 0 → IsUnit (den v (asBaseExp x).1).det) := by
  cases x
  case pow b k r => exact NegPowUnits.of_pow v h
  all_goals exact ⟨h, fun hk => absurd hk (by simp [asBaseExp])⟩

theorem zpow_combine (M : Matrix (Fin n) (Fin n) K) (e1 e2 : ℤ)
    (h1 : e1 < 0 → IsUnit M.det) (h2 : e2 < 0 → IsUnit M.det) :
    M ^ e1 * M ^ e2 = M ^ (e1 + e2) := by
  by_cases h : 0 ≤ e1 ∧ 0 ≤ e2
  · exact (Matrix.zpow_add_of_nonneg h.1 h.2).symm
  · have hu : IsUnit M.det := by
      by_cases h1' : e1 < 0
      · exact h1 h1'
      · exact h2 (by omega)
    exact (Matrix.zpow_add hu e1 e2).symm

theorem den_mkPow (b : ME) (e : Int) : den v (mkPow b e) = den v b ^ e := by
  unfold mkPow
  split
  · simp [den]
  · split
    · rename_i h; have : e = 0 := by simpa using h
      simp [den, this]
    · split
      · rename_i h; have : e = 1 := by simpa using h
        simp [this]
      · simp [den]

theorem negPowUnits_mkPow {b : ME} {e : Int} (hb : NegPowUnits v b)
    (he : e < 0 → IsUnit (den v b).det) : NegPowUnits v (mkPow b e) := by
  unfold mkPow
  split
  · exact NegPowUnits.mk_pow v hb he
  · split
    · exact negPowUnits_num v 1
    · split
      · exact hb
      · exact NegPowUnits.mk_pow v hb he

theorem ncStep_inv (st : List ME × Bool) (o : ME) (hst : ∀ x ∈ st.1, NegPowUnits v x)
    (ho : NegPowUnits v o) :
    (∀ x ∈ (ncStep st o).1, NegPowUnits v x) ∧
      denProd v (ncStep st o).1.reverse = denProd v st.1.reverse * den v o := by
  obtain ⟨stk, fl⟩ := st
  cases stk with
  | nil =>
    simp only [ncStep]
    exact ⟨fun x hx => by simp at hx; rw [hx]; exact ho, by simp [denProd]⟩
  | cons o1 rest =>
    have ho1 : NegPowUnits v o1 := hst o1 (by simp)
    have hrest : ∀ x ∈ rest, NegPowUnits v x := fun x hx => hst x (by simp [hx])
    obtain ⟨hb1, hu1⟩ := negPowUnits_asBaseExp v ho1
    obtain ⟨_, hu2⟩ := negPowUnits_asBaseExp v ho
    simp only [ncStep]
    by_cases hb : ((asBaseExp o1).1 == (asBaseExp o).1) = true
    · rw [if_pos hb]
      have hbe : den v (asBaseExp o1).1 = den v (asBaseExp o).1 := den_eq_of_beq v _ _ hb
      have hsum : (asBaseExp o1).2.1 + (asBaseExp o).2.1 < 0 → IsUnit (den v (asBaseExp o1).1).det := by
        intro hs
        by_cases h1 : (asBaseExp o1).2.1 < 0
        · exact hu1 h1
        · rw [hbe]; exact hu2 (by omega)
      have hp := negPowUnits_mkPow v (e := (asBaseExp o1).2.1 + (asBaseExp o).2.1) hb1 hsum
      have hval : den v (mkPow (asBaseExp o1).1 ((asBaseExp o1).2.1 + (asBaseExp o).2.1))
          = den v o1 * den v o := by
        rw [den_mkPow, den_asBaseExp v o1, den_asBaseExp v o, ← hbe]
        exact (zpow_combine _ _ _ hu1 (by rw [hbe]; exact hu2)).symm
      by_cases h1 : isOne (mkPow (asBaseExp o1).1 ((asBaseExp o1).2.1 + (asBaseExp o).2.1)) = true
      · simp only [h1, if_true]
        refine ⟨hrest, ?_⟩
        have := den_isOne v h1
        rw [hval] at this
        simp only [List.reverse_cons, denProd_append, denProd, mul_one]
        rw [mul_assoc, this, mul_one]
      · simp only [h1]
        refine ⟨fun x hx => ?_, ?_⟩
        · simp only [Bool.false_eq_true, if_false, List.mem_cons] at hx
          rcases hx with hx | hx
          · rw [hx]; exact hp
          · exact hrest x hx
        · simp only [Bool.false_eq_true, if_false, List.reverse_cons, denProd_append, denProd, mul_one]
          rw [hval, mul_assoc]
    · rw [if_neg hb]
      refine ⟨fun x hx => ?_, ?_⟩
      · simp only [List.mem_cons] at hx
        rcases hx with hx | hx | hx
        · rw [hx]; exact ho
        · rw [hx]; exact ho1
        · exact hrest x hx
      · simp [List.reverse_cons, denProd_append, denProd, mul_assoc]

theorem ncFold_inv (xs : List ME) : ∀ (st : List ME × Bool), (∀ x ∈ st.1, NegPowUnits v x) →
    (∀ x ∈ xs, NegPowUnits v x) →
    denProd v (xs.foldl ncStep st).1.reverse = denProd v st.1.reverse * denProd v xs := by
  induction xs with
  | nil => intro st _ _; simp [denProd]
  | cons a as ih =>
    intro st hst hxs
    obtain ⟨h1, h2⟩ := ncStep_inv v st a hst (hxs a (by simp))
    simp only [List.foldl]
    rw [ih _ h1 (fun x hx => hxs x (by simp [hx])), h2]
    simp [denProd, mul_assoc]

theorem den_ncOf (f : Nat) (ys : List ME) : den v (ncOf f ys) = denProd v ys := by
  unfold ncOf
  split
  · simp [den, denProd]
  · simp [denProd]
  · exact den_mkMul v f ys

/-- sympy `Mul(*args)` on non-commutative factors denotes their ordered product, provided every
    negative power among them has an invertible base (`A * A**-1` is rewritten to `A**0`) -/
theorem den_sympyMulNC (f : Nat) (ncs : List ME) (h : ∀ x ∈ ncs, NegPowUnits v x) :
    den v (sympyMulNC f ncs) = denProd v ncs := by
  unfold sympyMulNC ncFold
  rw [den_ncOf, ncFold_inv v ncs ([], false) (by simp) h]
  simp [denProd]

/-! ### coefficients of a traced product -/

theorem comm_of_isCoeff {x : ME} (h : isCoeff x = true) : comm x = true := by
  cases x <;> simp_all [isCoeff, comm]

theorem scalar_of_coeffs (cs : List ME) (h : ∀ x ∈ cs, isCoeff x = true) :
    ∃ κ : K, denProd v cs = κ • (1 : Matrix (Fin n) (Fin n) K) := by
  induction cs with
  | nil => exact ⟨1, by simp [denProd]⟩
  | cons a as ih =>
    obtain ⟨κ, hκ⟩ := ih (fun x hx => h x (by simp [hx]))
    have ha := h a (by simp)
    cases a <;> simp [isCoeff] at ha
    case num k => exact ⟨κ * (k : K), by simp [denProd, den, hκ, smul_smul]⟩
    case sym s => exact ⟨κ * v.cst s, by simp [denProd, den, hκ, smul_smul]⟩

end MatSym
end Sympde

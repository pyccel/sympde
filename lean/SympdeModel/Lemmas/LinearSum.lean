/-
  The verdict on a sum of integrals is positive exactly when every integral passes both tests
  (`isLinear_true_iff_tests`); on operator-free integrals it is always defined (`isLinear_total`),
  and negative as soon as one integral fails the homogeneity test (`isLinear_false_of_mem`).

  Two VARIANTS, neither a model of the code (Props/C08.lean shows an input on which each differs
  from `isLinear` and from the meaning of the integrand): `isLinearLumped` adds the integrands of
  all the integrals and tests the sum (violations on different regions can cancel);
  `isLinearTermwise` tests the top-level summands of every integrand one by one.
-/
import SympdeModel.Lemmas.LinearSound
namespace Sympde.Linear
open E
open Sympde.Sub

theorem allOK_cons_true_iff (x : Except Err Bool) (xs : List (Except Err Bool)) :
    allOK (x :: xs) = .ok true ↔ x = .ok true ∧ allOK xs = .ok true := by
  rcases x with e | b
  · simp [allOK]
  · cases h : allOK xs <;> simp [allOK, h]

theorem allOK_true_iff (l : List (Except Err Bool)) : allOK l = .ok true ↔ ∀ x ∈ l, x = .ok true := by
  induction l with
  | nil => simp [allOK]
  | cons x xs ih => rw [allOK_cons_true_iff, ih, List.forall_mem_cons]

theorem allOK_total (l : List (Except Err Bool)) (h : ∀ x ∈ l, ∃ b, x = .ok b) : ∃ b, allOK l = .ok b := by
  induction l with
  | nil => exact ⟨true, rfl⟩
  | cons x xs ih =>
    obtain ⟨b, rfl⟩ := h x (by simp)
    obtain ⟨r, hr⟩ := ih (fun y hy => h y (by simp [hy]))
    exact ⟨b && r, by simp [allOK, hr]⟩

theorem isLinear_true_iff_tests (d : Nat) (args : List E) (ints : List (String × E)) :
    isLinear d args ints = .ok true ↔
      ∀ p ∈ ints, additive d args p.2 = .ok true ∧ homogeneous d args p.2 = .ok true := by
  have key : isLinear d args ints = .ok true ↔
      allOK (ints.map (fun p => additive d args p.2)) = .ok true ∧
      allOK (ints.map (fun p => homogeneous d args p.2)) = .ok true := by
    unfold isLinear
    cases h : allOK (ints.map (fun p => additive d args p.2)) with
    | error e => simp
    | ok b => cases b <;> simp
  rw [key, allOK_true_iff, allOK_true_iff]
  simp only [List.mem_map, forall_exists_index, and_imp, forall_apply_eq_imp_iff₂]
  exact ⟨fun ⟨h1, h2⟩ p hp => ⟨h1 p hp, h2 p hp⟩, fun h => ⟨fun p hp => (h p hp).1, fun p hp => (h p hp).2⟩⟩

theorem isLinear_true_iff (d : Nat) (args : List E) (ints : List (String × E)) :
    isLinear d args ints = .ok true ↔ ∀ p ∈ ints, isLinear d args [p] = .ok true := by
  simp only [isLinear_true_iff_tests, List.mem_singleton, forall_eq]

theorem isLinear_total (d : Nat) (args : List E) (ints : List (String × E))
    (hargs : ∀ a ∈ args, isFn a = true) (hall : ∀ p ∈ ints, OpFree p.2 = true) :
    ∃ b, isLinear d args ints = .ok b := by
  have tt : ∀ p ∈ ints, _ := fun p hp => tests_total d args p.2 hargs (hall p hp)
  obtain ⟨a, ha⟩ := allOK_total (ints.map (fun p => additive d args p.2)) (by
    simp only [List.mem_map, forall_exists_index, and_imp, forall_apply_eq_imp_iff₂]
    exact fun p hp => (tt p hp).1)
  obtain ⟨b, hb⟩ := allOK_total (ints.map (fun p => homogeneous d args p.2)) (by
    simp only [List.mem_map, forall_exists_index, and_imp, forall_apply_eq_imp_iff₂]
    exact fun p hp => (tt p hp).2)
  cases a
  · exact ⟨false, by simp [isLinear, ha]⟩
  · exact ⟨b, by simp [isLinear, ha, hb]⟩

theorem isLinear_false_of_mem (d : Nat) (args : List E) (ints : List (String × E))
    (hargs : ∀ a ∈ args, isFn a = true) (hall : ∀ p ∈ ints, OpFree p.2 = true)
    (p : String × E) (hp : p ∈ ints) (hh : homogeneous d args p.2 ≠ .ok true) :
    isLinear d args ints = .ok false := by
  obtain ⟨b, hb⟩ := isLinear_total d args ints hargs hall
  cases b with
  | false => exact hb
  | true => exact absurd ((isLinear_true_iff_tests d args ints).mp hb p hp).2 hh

theorem isBilinear_false_of_trials (d : Nat) (trials tests : List E) (ints : List (String × E))
    (h : isLinear d trials ints = .ok false) : isBilinear d trials tests ints = .ok false := by
  simp [isBilinear, h]

theorem isBilinear_false_of_tests (d : Nat) (trials tests : List E) (ints : List (String × E))
    (htr : ∀ a ∈ trials, isFn a = true) (hall : ∀ p ∈ ints, OpFree p.2 = true)
    (h : isLinear d tests ints = .ok false) : isBilinear d trials tests ints = .ok false := by
  obtain ⟨b, hb⟩ := isLinear_total d trials ints htr hall
  cases b <;> simp [isBilinear, hb, h]

def isLinearLumped (d : Nat) (args : List E) (ints : List (String × E)) : Except Err Bool :=
  isLinear d args [("", add (ints.map (·.2)))]

def termsOf : E → List E
  | add ts => ts
  | e => [e]

def isLinearTermwise (d : Nat) (args : List E) (ints : List (String × E)) : Except Err Bool :=
  isLinear d args (ints.flatMap (fun p => (termsOf p.2).map (fun t => (p.1, t))))

end Sympde.Linear

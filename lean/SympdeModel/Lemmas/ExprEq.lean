/-
  The structural equality `E.beq` (Model/Expr.lean, the `BEq E` instance) decides equality.
  Core Lean only.
-/
import SympdeModel.Model.Expr
namespace Sympde
namespace E

/-- Induction on `x`, then cases on `y`: on two different constructors `E.beq` reduces to `false`;
    on the same constructor it is the conjunction of the comparisons of the arguments. -/
theorem eq_of_beq {x y : E} (h : (x == y) = true) : x = y := by
  change E.beq x y = true at h
  induction x using E.rec
    (motive_2 := fun as => ∀ bs, E.beqList as bs = true → as = bs) generalizing y with
  | num p q =>
    cases y with
    | num p' q' =>
      obtain ⟨hp, hq⟩ := Bool.and_eq_true_iff.mp h
      rw [beq_iff_eq.mp hp, beq_iff_eq.mp hq]
    | _ => exact Bool.noConfusion h
  | cst n =>
    cases y with
    | cst n' => rw [(beq_iff_eq (a := n)).mp h]
    | _ => exact Bool.noConfusion h
  | sym n =>
    cases y with
    | sym n' => rw [(beq_iff_eq (a := n)).mp h]
    | _ => exact Bool.noConfusion h
  | sf n k =>
    cases y with
    | sf n' k' =>
      obtain ⟨hn, hk⟩ := Bool.and_eq_true_iff.mp h
      rw [beq_iff_eq.mp hn, beq_iff_eq.mp hk]
    | _ => exact Bool.noConfusion h
  | vf n k =>
    cases y with
    | vf n' k' =>
      obtain ⟨hn, hk⟩ := Bool.and_eq_true_iff.mp h
      rw [beq_iff_eq.mp hn, beq_iff_eq.mp hk]
    | _ => exact Bool.noConfusion h
  | idx b i ih =>
    cases y with
    | idx b' i' =>
      obtain ⟨hb, hi⟩ := Bool.and_eq_true_iff.mp h
      rw [ih hb, beq_iff_eq.mp hi]
    | _ => exact Bool.noConfusion h
  | add as ih =>
    cases y with
    | add as' => rw [ih as' h]
    | _ => exact Bool.noConfusion h
  | mul as ih =>
    cases y with
    | mul as' => rw [ih as' h]
    | _ => exact Bool.noConfusion h
  | pow b e ihb ihe =>
    cases y with
    | pow b' e' =>
      obtain ⟨hb, he⟩ := Bool.and_eq_true_iff.mp h
      rw [ihb hb, ihe he]
    | _ => exact Bool.noConfusion h
  | fn f a ih =>
    cases y with
    | fn f' a' =>
      obtain ⟨hf, ha⟩ := Bool.and_eq_true_iff.mp h
      rw [beq_iff_eq.mp hf, ih ha]
    | _ => exact Bool.noConfusion h
  | pd c a ih =>
    cases y with
    | pd c' a' =>
      obtain ⟨hc, ha⟩ := Bool.and_eq_true_iff.mp h
      rw [beq_iff_eq.mp hc, ih ha]
    | _ => exact Bool.noConfusion h
  | op1 o a ih =>
    cases y with
    | op1 o' a' =>
      obtain ⟨ho, ha⟩ := Bool.and_eq_true_iff.mp h
      rw [beq_iff_eq.mp ho, ih ha]
    | _ => exact Bool.noConfusion h
  | op2 o a b iha ihb =>
    cases y with
    | op2 o' a' b' =>
      obtain ⟨hoa, hb⟩ := Bool.and_eq_true_iff.mp h
      obtain ⟨ho, ha⟩ := Bool.and_eq_true_iff.mp hoa
      rw [beq_iff_eq.mp ho, iha ha, ihb hb]
    | _ => exact Bool.noConfusion h
  | mat r c es ih =>
    cases y with
    | mat r' c' es' =>
      obtain ⟨hrc, hes⟩ := Bool.and_eq_true_iff.mp h
      obtain ⟨hr, hc⟩ := Bool.and_eq_true_iff.mp hrc
      rw [beq_iff_eq.mp hr, beq_iff_eq.mp hc, ih es' hes]
    | _ => exact Bool.noConfusion h
  | tup as ih =>
    cases y with
    | tup as' => rw [ih as' h]
    | _ => exact Bool.noConfusion h
  | normal k =>
    cases y with
    | normal k' => rw [(beq_iff_eq (a := k)).mp h]
    | _ => exact Bool.noConfusion h
  | other t as ih =>
    cases y with
    | other t' as' =>
      obtain ⟨ht, has⟩ := Bool.and_eq_true_iff.mp h
      rw [beq_iff_eq.mp ht, ih as' has]
    | _ => exact Bool.noConfusion h
  | nil =>
    rename_i bs h
    cases bs with
    | nil => rfl
    | cons b bs => exact Bool.noConfusion h
  | cons a as iha ihas =>
    rename_i bs h
    cases bs with
    | nil => exact Bool.noConfusion h
    | cons b bs =>
      obtain ⟨ha, has⟩ := Bool.and_eq_true_iff.mp h
      rw [iha ha, ihas bs has]

theorem beq_refl (x : E) : (x == x) = true := by
  have key : E.beq x x = true := by
    induction x using E.rec (motive_2 := fun as => E.beqList as as = true) with
    | nil => rfl
    | cons a as iha ihas => simp only [E.beqList, iha, ihas, Bool.and_self]
    | _ => simp only [E.beq, *, beq_self_eq_true, Bool.and_self]
  exact key

instance : LawfulBEq E where
  eq_of_beq := eq_of_beq
  rfl := beq_refl _

end E
end Sympde

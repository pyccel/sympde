/-
  The typing judgements: `ty` of the fragment of `lower_sound`, the budgeted `tyk` of the fragment with
  scalar powers and elementary functions (which contains the former at every budget: `tyk_of_ty`),
  what they say of a node and its arguments, rank and index-freeness of well-typed expressions, and
  the non-degeneracy hypothesis `NDG` on the generic expression.
-/
import SympdeModel.Lemmas.LowerOps
import SympdeModel.Lemmas.LowerForms
namespace Sympde.Lower
open E PD
open DRing (sumN)

variable {K : Type} [CommRing K] [Algebra ℚ K]

/-! ### the covered fragment: a typing judgement on generic expressions -/

mutual
/-- the type of a generic expression of the covered fragment (`none` outside it): numbers,
    constants, coordinates and parameters, scalar and vector functions and their components,
    non-empty sums of terms of one type, non-empty products with at most one non-scalar factor,
    and the operators grad, div, curl, rot, laplace, hessian, dot, cross, inner, bracket applied
    to arguments of the types `ty1` / `ty2` accept (arbitrarily nested) -/
def ty (d : Nat) : E → Option Ty
  | num _ _ => some .s
  | cst _ => some .s
  | sym _ => some .s
  | sf _ _ => some .s
  | vf _ _ => some .v
  | idx (vf _ _) _ => some .s
  | add as => tyAdd d as
  | mul as => tyMul d as
  | op1 o a => (ty d a).bind (ty1 d o)
  | op2 o a b => (ty d a).bind (fun τa => (ty d b).bind (fun τb => ty2 d o τa τb))
  | _ => none
def tyAdd (d : Nat) : List E → Option Ty
  | [] => none
  | a :: as => (ty d a).bind (fun τ => if tyAll d τ as then some τ else none)
def tyAll (d : Nat) (τ : Ty) : List E → Bool
  | [] => true
  | a :: as => (ty d a == some τ) && tyAll d τ as
def tyMul (d : Nat) : List E → Option Ty
  | [] => none
  | a :: as => (ty d a).bind (fun τ => tyMulAcc d τ as)
def tyMulAcc (d : Nat) (τ : Ty) : List E → Option Ty
  | [] => some τ
  | a :: as => (ty d a).bind (fun τa => (tmul τ τa).bind (fun τ' => tyMulAcc d τ' as))
end

theorem tyAll_mem (d : Nat) (τ : Ty) (as : List E) (h : tyAll d τ as = true) :
    ∀ a ∈ as, ty d a = some τ := by
  induction as with
  | nil => exact fun a ha => nomatch ha
  | cons x xs ih =>
    simp only [tyAll, Bool.and_eq_true, beq_iff_eq] at h
    exact List.forall_mem_cons.mpr ⟨h.1, ih h.2⟩

theorem ty_add_inv (d : Nat) (as : List E) (τ : Ty) (h : ty d (add as) = some τ) :
    as ≠ [] ∧ ∀ a ∈ as, ty d a = some τ := by
  cases as with
  | nil => exact nomatch h
  | cons a rest =>
    obtain ⟨τa, ha, h⟩ := Option.bind_eq_some_iff.mp h
    split at h
    · rename_i hall
      cases h
      exact ⟨List.cons_ne_nil _ _, List.forall_mem_cons.mpr ⟨ha, tyAll_mem d _ rest hall⟩⟩
    · exact nomatch h

theorem tyMulAcc_inv (d : Nat) (as : List E) (τ0 τ : Ty) (h : tyMulAcc d τ0 as = some τ) :
    ∃ τs, List.Forall₂ (fun x τx => ty d x = some τx) as τs ∧ tmulList τ0 τs = some τ := by
  induction as generalizing τ0 with
  | nil => exact ⟨[], .nil, h⟩
  | cons x xs ih =>
    obtain ⟨τx, hx, h⟩ := Option.bind_eq_some_iff.mp h
    obtain ⟨τ', hm, h⟩ := Option.bind_eq_some_iff.mp h
    obtain ⟨τs, hF, hτs⟩ := ih τ' h
    exact ⟨τx :: τs, .cons hx hF, by simp only [tmulList, hm, Option.bind_some, hτs]⟩

theorem ty_mul_inv (d : Nat) (as : List E) (τ : Ty) (h : ty d (mul as) = some τ) :
    ∃ a rest τa τs, as = a :: rest ∧ ty d a = some τa ∧
      List.Forall₂ (fun x τx => ty d x = some τx) rest τs ∧ tmulList τa τs = some τ := by
  cases as with
  | nil => exact nomatch h
  | cons a rest =>
    obtain ⟨τa, ha, h⟩ := Option.bind_eq_some_iff.mp h
    obtain ⟨τs, hF, hτs⟩ := tyMulAcc_inv d rest τa τ h
    exact ⟨a, rest, τa, τs, rfl, ha, hF, hτs⟩

theorem ty_add_sub (d : Nat) (as : List E) (h : ∃ τ, ty d (add as) = some τ) :
    ∀ a ∈ as, ∃ τ, ty d a = some τ :=
  fun a ha => h.elim fun τ hτ => ⟨τ, (ty_add_inv d as τ hτ).2 a ha⟩

theorem forall₂_mem_left {α β : Type} {R : α → β → Prop} {as : List α} {bs : List β}
    (F : List.Forall₂ R as bs) : ∀ a ∈ as, ∃ b ∈ bs, R a b := by
  induction F with
  | nil => exact fun a ha => nomatch ha
  | cons hab _ ih =>
    intro x hx
    rcases List.mem_cons.mp hx with rfl | hx
    · exact ⟨_, by simp, hab⟩
    · obtain ⟨b, hb, h⟩ := ih x hx
      exact ⟨b, by simp [hb], h⟩

theorem ty_mul_sub (d : Nat) (as : List E) (h : ∃ τ, ty d (mul as) = some τ) :
    ∀ a ∈ as, ∃ τ, ty d a = some τ := by
  obtain ⟨τ, hτ⟩ := h
  obtain ⟨a, rest, τa, τs, rfl, ha, hF, _⟩ := ty_mul_inv d as τ hτ
  intro x hx
  rcases List.mem_cons.mp hx with rfl | hx
  · exact ⟨τa, ha⟩
  · obtain ⟨τx, _, hτx⟩ := forall₂_mem_left hF x hx
    exact ⟨τx, hτx⟩

theorem ty_op1_sub (d : Nat) (o : Op1) (a : E) (h : ∃ τ, ty d (op1 o a) = some τ) :
    ∃ τ, ty d a = some τ := by
  obtain ⟨τ, hτ⟩ := h
  obtain ⟨τa, ha, _⟩ := Option.bind_eq_some_iff.mp hτ
  exact ⟨τa, ha⟩

theorem ty_op2_sub (d : Nat) (o : Op2) (a b : E) (h : ∃ τ, ty d (op2 o a b) = some τ) :
    (∃ τ, ty d a = some τ) ∧ ∃ τ, ty d b = some τ := by
  obtain ⟨τ, hτ⟩ := h
  obtain ⟨τa, ha, hτ⟩ := Option.bind_eq_some_iff.mp hτ
  obtain ⟨τb, hb, _⟩ := Option.bind_eq_some_iff.mp hτ
  exact ⟨⟨τa, ha⟩, ⟨τb, hb⟩⟩

/-! ### extended scalar forms as generic expressions -/

theorem denGSum_den (S : DRing K) (d : Nat) (lg : Bool) (as : List E) (i j : Nat)
    (h : ∀ a ∈ as, denG S d lg a i j = den S a i j) : denGSum S d lg as i j = denSum S as i j := by
  induction as with
  | nil => rfl
  | cons a as ih =>
    simp only [denGSum, denSum]
    rw [h a (by simp), ih fun x hx => h x (by simp [hx])]

theorem denGProd_den (S : DRing K) (d : Nat) (lg : Bool) (as : List E) (i j : Nat)
    (h : ∀ a ∈ as, denG S d lg a i j = den S a i j) : denGProd S d lg as i j = denProd S as i j := by
  induction as with
  | nil => rfl
  | cons a as ih =>
    simp only [denGProd, denProd]
    rw [h a (by simp), ih fun x hx => h x (by simp [hx])]

theorem denG_LX (S : DRing K) (d : Nat) (lg : Bool) (e : E) (h : LX e = true) :
    ∀ i j, denG S d lg e i j = den S e i j := by
  intro i j
  induction e using E.induction generalizing i j with
  | add as ih => exact denGSum_den S d lg as i j fun a ha => ih a ha (LXList_mem h ha) i j
  | mul as ih => exact denGProd_den S d lg as i j fun a ha => ih a ha (LXList_mem h ha) i j
  | pd c a ih => exact congrArg (S.D c) (ih h i j)
  | pow b e ihb ihe => simp only [denG, den, ihb (LX_pow h).1, ihe (LX_pow h).2]
  | fn f a ih => exact congrArg (S.fn f) (ih h i j)
  | idx b k _ => obtain ⟨n, k', rfl⟩ := LX_idx h; rfl
  | num _ _ | cst _ | sym _ | sf _ _ => rfl
  | _ => exact nomatch h

theorem rankMax_zero (d : Nat) (as : List E) (h : ∀ a ∈ as, rank d a = 0) : rankMax d as = 0 := by
  induction as with
  | nil => rfl
  | cons a as ih =>
    simp only [rankMax, h a (by simp), ih fun x hx => h x (by simp [hx])]
    rfl

theorem rank_LX (d : Nat) (e : E) (h : LX e = true) : rank d e = 0 := by
  induction e using E.induction with
  | add as ih =>
    cases as with
    | nil => rfl
    | cons a as => exact ih a (by simp) (LXList_mem h (by simp))
  | mul as ih => exact rankMax_zero d as fun a ha => ih a ha (LXList_mem h ha)
  | pd c a ih => exact ih h
  | idx b k _ | num _ _ | cst _ | sym _ | sf _ _ | pow _ _ _ _ | fn _ _ _ => rfl
  | _ => exact nomatch h

/-! ### the budgeted typing judgement -/

/-- an exponent whose lowered form is an integer literal exactly when it is one itself: a literal,
    or an expression that is not headed by an operator (nor a degenerate one-term sum / product) -/
def headStable : E → Bool
  | num _ _ => true
  | cst _ => true
  | sym _ => true
  | sf _ _ => true
  | idx _ _ => true
  | pow _ _ => true
  | fn _ _ => true
  | add (_ :: _ :: _) => true
  | mul (_ :: _ :: _) => true
  | _ => false

mutual
/-- the type of a generic expression that will be differentiated `k` more times (`none` outside the
    fragment): the fragment of `ty`, plus `pow b e` for scalar `b`, `e` (any exponent: integer or
    rational literal, or a head-stable expression), `f(a)` for an elementary function of a scalar
    `a` of the fragment (differentiated only if `f` is in the derivative table of the model of
    `sympy.diff`; so `Abs` is never differentiated); an operator of order `ord` raises the budget of
    its arguments by `ord` -/
def tyk (d : Nat) : E → Nat → Option Ty
  | num _ _, _ => some .s
  | cst _, _ => some .s
  | sym _, _ => some .s
  | sf _ _, _ => some .s
  | vf _ _, _ => some .v
  | idx (vf _ _) _, _ => some .s
  | add as, k => tykAdd d as k
  | mul as, k => tykMul d as k
  | pow b e, k =>
      if tyk d b k == some .s && tyk d e k == some .s && headStable e then some .s else none
  | fn f a, k =>
      if tyk d a k == some .s && (k == 0 || knownFn f) then some .s else none
  | op1 o a, k => (tyk d a (k + ord1 o)).bind (ty1 d o)
  | op2 o a b, k =>
      (tyk d a (k + ord2 o)).bind (fun τa => (tyk d b (k + ord2 o)).bind (fun τb => ty2 d o τa τb))
  | _, _ => none
def tykAdd (d : Nat) : List E → Nat → Option Ty
  | [], _ => none
  | a :: as, k => (tyk d a k).bind (fun τ => if tykAll d τ as k then some τ else none)
def tykAll (d : Nat) (τ : Ty) : List E → Nat → Bool
  | [], _ => true
  | a :: as, k => (tyk d a k == some τ) && tykAll d τ as k
def tykMul (d : Nat) : List E → Nat → Option Ty
  | [], _ => none
  | a :: as, k => (tyk d a k).bind (fun τ => tykMulAcc d τ as k)
def tykMulAcc (d : Nat) (τ : Ty) : List E → Nat → Option Ty
  | [], _ => some τ
  | a :: as, k => (tyk d a k).bind (fun τa => (tmul τ τa).bind (fun τ' => tykMulAcc d τ' as k))
end

theorem tykAll_iff (d : Nat) (τ : Ty) (as : List E) (k : Nat) :
    tykAll d τ as k = true ↔ ∀ a ∈ as, tyk d a k = some τ := by
  induction as with
  | nil => simp [tykAll]
  | cons x xs ih => simp [tykAll, ih]

theorem tyk_add (d : Nat) (as : List E) (k : Nat) (τ : Ty) :
    tyk d (add as) k = some τ ↔ as ≠ [] ∧ ∀ a ∈ as, tyk d a k = some τ := by
  cases as with
  | nil => exact ⟨nofun, fun h => absurd rfl h.1⟩
  | cons a rest =>
    show (tyk d a k).bind (fun τ => if tykAll d τ rest k then some τ else none) = some τ ↔ _
    simp only [Option.bind_eq_some_iff, Option.ite_none_right_eq_some, Option.some.injEq, tykAll_iff,
      List.forall_mem_cons, ne_eq, reduceCtorEq, not_false_eq_true, true_and]
    exact ⟨fun ⟨τa, ha, hall, e⟩ => e ▸ ⟨ha, hall⟩, fun ⟨ha, hall⟩ => ⟨τ, ha, hall, rfl⟩⟩

theorem tykMulAcc_iff (d : Nat) (as : List E) (k : Nat) (τ0 τ : Ty) :
    tykMulAcc d τ0 as k = some τ ↔
      ∃ τs, List.Forall₂ (fun x τx => tyk d x k = some τx) as τs ∧ tmulList τ0 τs = some τ := by
  induction as generalizing τ0 with
  | nil =>
    refine ⟨fun h => ⟨[], .nil, h⟩, fun ⟨τs, hF, h⟩ => ?_⟩
    cases hF; exact h
  | cons x xs ih =>
    show (tyk d x k).bind (fun τa => (tmul τ0 τa).bind (fun τ' => tykMulAcc d τ' xs k)) = some τ ↔ _
    simp only [Option.bind_eq_some_iff, ih]
    constructor
    · rintro ⟨τx, hx, τ', hm, τs, hF, hτs⟩
      exact ⟨τx :: τs, .cons hx hF, by simp only [tmulList, hm, Option.bind_some, hτs]⟩
    · rintro ⟨τs', hF, hτs⟩
      cases hF with
      | cons hx hF =>
        obtain ⟨τ', hm, hτs⟩ := Option.bind_eq_some_iff.mp hτs
        exact ⟨_, hx, τ', hm, _, hF, hτs⟩

theorem tyk_mul (d : Nat) (a : E) (rest : List E) (k : Nat) (τ : Ty) :
    tyk d (mul (a :: rest)) k = some τ ↔ ∃ τa τs, tyk d a k = some τa ∧
      List.Forall₂ (fun x τx => tyk d x k = some τx) rest τs ∧ tmulList τa τs = some τ := by
  show (tyk d a k).bind (fun τ' => tykMulAcc d τ' rest k) = some τ ↔ _
  simp only [Option.bind_eq_some_iff, tykMulAcc_iff]
  exact ⟨fun ⟨τa, ha, τs, h⟩ => ⟨τa, τs, ha, h⟩, fun ⟨τa, τs, ha, h⟩ => ⟨τa, ha, τs, h⟩⟩

theorem tyk_pow (d : Nat) (b e : E) (k : Nat) (τ : Ty) (h : tyk d (pow b e) k = some τ) :
    τ = .s ∧ tyk d b k = some .s ∧ tyk d e k = some .s ∧ headStable e = true := by
  simp only [tyk, Option.ite_none_right_eq_some, Bool.and_eq_true, beq_iff_eq, Option.some.injEq] at h
  exact ⟨h.2.symm, h.1.1.1, h.1.1.2, h.1.2⟩

theorem tyk_fn (d : Nat) (f : String) (a : E) (k : Nat) (τ : Ty) (h : tyk d (fn f a) k = some τ) :
    τ = .s ∧ tyk d a k = some .s ∧ (k = 0 ∨ knownFn f = true) := by
  simp only [tyk, Option.ite_none_right_eq_some, Bool.and_eq_true, Bool.or_eq_true, beq_iff_eq,
    Option.some.injEq] at h
  exact ⟨h.2.symm, h.1.1, h.1.2⟩

/-! ### products of types -/

theorem tmul_rk (τa τb τ : Ty) (h : tmul τa τb = some τ) : rk τ = max (rk τa) (rk τb) := by
  cases τa <;> cases τb <;> cases h <;> rfl

theorem tmulList_mem (τ0 τ : Ty) (τs : List Ty) (h : tmulList τ0 τs = some τ) :
    (τ0 = .s ∨ τ0 = τ) ∧ ∀ τx ∈ τs, τx = .s ∨ τx = τ := by
  induction τs generalizing τ0 with
  | nil => exact ⟨Or.inr (Option.some.inj h), fun _ hx => nomatch hx⟩
  | cons τx τs ih =>
    obtain ⟨τ', hm, h⟩ := Option.bind_eq_some_iff.mp h
    obtain ⟨h0, hs⟩ := ih τ' h
    rcases tmul_cases τ0 τx τ' hm with ⟨rfl, rfl⟩ | ⟨rfl, rfl⟩
    · exact ⟨Or.inl rfl, List.forall_mem_cons.mpr ⟨h0, hs⟩⟩
    · exact ⟨h0, List.forall_mem_cons.mpr ⟨Or.inl rfl, hs⟩⟩

theorem rankMax_tmulList (d : Nat) (as : List E) (τs : List Ty)
    (F : List.Forall₂ (fun x τx => rank d x = rk τx) as τs) (τ0 τ : Ty)
    (h : tmulList τ0 τs = some τ) : rk τ = max (rk τ0) (rankMax d as) := by
  induction F generalizing τ0 with
  | nil => cases h; simp [rankMax]
  | @cons x τx xs τs hx _ ih =>
    obtain ⟨τ', hm, h⟩ := Option.bind_eq_some_iff.mp h
    rw [ih τ' h, tmul_rk τ0 τx τ' hm, ← hx]
    simp only [rankMax]
    omega

theorem forall₂_imp_mem {α β : Type} {R Q : α → β → Prop} {as : List α} {bs : List β}
    (F : List.Forall₂ R as bs) (h : ∀ a ∈ as, ∀ b, R a b → Q a b) : List.Forall₂ Q as bs := by
  induction F with
  | nil => exact .nil
  | cons hab _ ih => exact .cons (h _ (by simp) _ hab) (ih fun a ha => h a (by simp [ha]))

/-! ### rank and index-freeness of well-typed expressions -/

theorem ty1_rank (d : Nat) (o : Op1) (τa τ : Ty) (a : E) (h : ty1 d o τa = some τ)
    (hr : rank d a = rk τa) : rank d (op1 o a) = rk τ := by
  unfold ty1 at h
  split at h <;> (repeat' split at h) <;> cases h <;> simp only [rank, rk, *] <;> rfl

theorem ty2_rank (d : Nat) (o : Op2) (τa τb τ : Ty) (a b : E) (h : ty2 d o τa τb = some τ)
    (hra : rank d a = rk τa) (hrb : rank d b = rk τb) : rank d (op2 o a b) = rk τ := by
  unfold ty2 at h
  split at h <;> (repeat' split at h) <;> cases h <;> simp only [rank, rk, *] <;> rfl

theorem tyk_rank (d : Nat) (e : E) (k : Nat) (τ : Ty) (h : tyk d e k = some τ) : rank d e = rk τ := by
  induction e using E.induction generalizing k τ with
  | num _ _ | cst _ | sym _ | sf _ _ | vf _ _ => exact (Option.some.inj h) ▸ rfl
  | idx b i _ => cases b <;> cases h; rfl
  | pow b e _ _ => obtain ⟨rfl, _⟩ := tyk_pow d b e k τ h; rfl
  | fn f a _ => obtain ⟨rfl, _⟩ := tyk_fn d f a k τ h; rfl
  | add as ih =>
    cases as with
    | nil => cases h
    | cons a rest => exact ih a (by simp) k τ (((tyk_add d _ k τ).mp h).2 a (by simp))
  | mul as ih =>
    cases as with
    | nil => cases h
    | cons a rest =>
      obtain ⟨τa, τs, ha, hF, hτs⟩ := (tyk_mul d a rest k τ).mp h
      have F := forall₂_imp_mem hF fun x hx τx hτx => ih x (by simp [hx]) k τx hτx
      rw [rankMax_tmulList d rest τs F τa τ hτs, ← ih a (by simp) k τa ha]
      rfl
  | op1 o a iha =>
    obtain ⟨τa, ha, h⟩ := Option.bind_eq_some_iff.mp h
    exact ty1_rank d o τa τ a h (iha _ τa ha)
  | op2 o a b iha ihb =>
    obtain ⟨τa, ha, h⟩ := Option.bind_eq_some_iff.mp h
    obtain ⟨τb, hb, h⟩ := Option.bind_eq_some_iff.mp h
    exact ty2_rank d o τa τb τ a b h (iha _ τa ha) (ihb _ τb hb)
  | _ => cases h

theorem denGSum_congr' (S : DRing K) (d : Nat) (lg : Bool) (as : List E) (i j i' j' : Nat)
    (h : ∀ a ∈ as, denG S d lg a i j = denG S d lg a i' j') :
    denGSum S d lg as i j = denGSum S d lg as i' j' := by
  induction as with
  | nil => rfl
  | cons a as ih =>
    simp only [denGSum]
    rw [h a (by simp), ih (fun x hx => h x (by simp [hx]))]

theorem denGProd_congr' (S : DRing K) (d : Nat) (lg : Bool) (as : List E) (i j i' j' : Nat)
    (h : ∀ a ∈ as, denG S d lg a i j = denG S d lg a i' j') :
    denGProd S d lg as i j = denGProd S d lg as i' j' := by
  induction as with
  | nil => rfl
  | cons a as ih =>
    simp only [denGProd]
    rw [h a (by simp), ih (fun x hx => h x (by simp [hx]))]

theorem ty1_indexFree (S : DRing K) (d : Nat) (lg : Bool) (o : Op1) (τa : Ty) (a : E)
    (h : ty1 d o τa = some .s) (hr : rank d a = rk τa)
    (ha : τa = .s → ∀ i j, denG S d lg a i j = denG S d lg a 0 0) (i j : Nat) :
    denG S d lg (op1 o a) i j = denG S d lg (op1 o a) 0 0 := by
  unfold ty1 at h
  split at h <;> (repeat' split at h) <;> cases h
  · simp [denG, hr, rk]
  · simp_all [denG]
  · simp only [denG]; rw [ha rfl i j]

theorem ty2_indexFree (S : DRing K) (d : Nat) (lg : Bool) (o : Op2) (τa τb : Ty) (a b : E)
    (h : ty2 d o τa τb = some .s) (hra : rank d a = rk τa) (hrb : rank d b = rk τb) (i j : Nat) :
    denG S d lg (op2 o a b) i j = denG S d lg (op2 o a b) 0 0 := by
  unfold ty2 at h
  split at h <;> (repeat' split at h) <;> cases h <;> simp_all [denG, rk]

theorem tyk_indexFree (S : DRing K) (d : Nat) (lg : Bool) (e : E) (k : Nat) (h : tyk d e k = some .s) :
    ∀ i j, denG S d lg e i j = denG S d lg e 0 0 := by
  induction e using E.induction generalizing k with
  | num _ _ | cst _ | sym _ | sf _ _ | idx _ _ _ => exact fun _ _ => rfl
  | pow b e ihb ihe =>
    obtain ⟨_, hb, he, _⟩ := tyk_pow d b e k _ h
    intro i j
    simp only [denG, ihb k hb i j, ihe k he i j]
  | fn f a iha => exact fun i j => congrArg (S.fn f) (iha k (tyk_fn d f a k _ h).2.1 i j)
  | add as ih =>
    exact fun i j => denGSum_congr' S d lg as i j 0 0 fun x hx =>
      ih x hx k (((tyk_add d as k _).mp h).2 x hx) i j
  | mul as ih =>
    cases as with
    | nil => cases h
    | cons a rest =>
      obtain ⟨τa, τs, ha, hF, hτs⟩ := (tyk_mul d a rest k _).mp h
      obtain ⟨h0, hs⟩ := tmulList_mem τa .s τs hτs
      refine fun i j => denGProd_congr' S d lg _ i j 0 0 fun x hx => ?_
      rcases List.mem_cons.mp hx with rfl | hx'
      · exact ih x hx k (h0.elim id id ▸ ha) i j
      · obtain ⟨τx, hm, hτx⟩ := forall₂_mem_left hF x hx'
        exact ih x hx k ((hs τx hm).elim id id ▸ hτx) i j
  | op1 o a iha =>
    obtain ⟨τa, ha, h⟩ := Option.bind_eq_some_iff.mp h
    exact ty1_indexFree S d lg o τa a h (tyk_rank d a _ τa ha) (fun hs => iha _ (hs ▸ ha))
  | op2 o a b _ _ =>
    obtain ⟨τa, ha, h⟩ := Option.bind_eq_some_iff.mp h
    obtain ⟨τb, hb, h⟩ := Option.bind_eq_some_iff.mp h
    exact ty2_indexFree S d lg o τa τb a b h (tyk_rank d a _ τa ha) (tyk_rank d b _ τb hb)
  | _ => cases h

/-! ### the non-degeneracy hypothesis, on the generic expression -/

/-- the classical value of `b` is a unit (with inverse `S.inv`) at every component -/
def InvG (S : DRing K) (d : Nat) (lg : Bool) (b : E) : Prop :=
  ∀ i j, denG S d lg b i j * S.inv (denG S d lg b i j) = 1

def powCondG (S : DRing K) (d : Nat) (lg : Bool) (k : Nat) (b e : E) : Prop :=
  match intLit e with
  | some (Int.ofNat n) => k ≤ n ∨ InvG S d lg b
  | _ => k = 0 ∨ InvG S d lg b

def fnCondG (S : DRing K) (d : Nat) (lg : Bool) (k : Nat) (f : String) (a : E) : Prop :=
  k = 0 ∨ (knownFn f = true ∧ (f = "log" → InvG S d lg a) ∧
    (f = "tan" → k ≤ 3 ∨ InvG S d lg (fn "tan" a)))

mutual
/-- `NDG S d lg e k`: `e`, differentiated `k` more times, never needs the derivative of an inverse
    that does not exist: for every power `b ^ e'` inside `e` that ends up under `k'` derivatives,
    either `e'` is a literal `n ≥ k'`, or nothing differentiates it (`k' = 0`), or `b` is invertible;
    the argument of a differentiated `log` is invertible, `tan a` differentiated more than three
    times is invertible, and differentiated elementary functions are in the table.
    (Expressions without powers and functions satisfy it trivially: `NDG_of_ty`.) -/
def NDG (S : DRing K) (d : Nat) (lg : Bool) : E → Nat → Prop
  | pow b e, k => powCondG S d lg k b e ∧ NDG S d lg b k ∧ NDG S d lg e k
  | fn f a, k => fnCondG S d lg k f a ∧ NDG S d lg a k
  | add as, k => NDGList S d lg as k
  | mul as, k => NDGList S d lg as k
  | op1 o a, k => NDG S d lg a (k + ord1 o)
  | op2 o a b, k => NDG S d lg a (k + ord2 o) ∧ NDG S d lg b (k + ord2 o)
  | _, _ => True
def NDGList (S : DRing K) (d : Nat) (lg : Bool) : List E → Nat → Prop
  | [], _ => True
  | a :: as, k => NDG S d lg a k ∧ NDGList S d lg as k
end

theorem NDGList_iff (S : DRing K) (d : Nat) (lg : Bool) (as : List E) (k : Nat) :
    NDGList S d lg as k ↔ ∀ a ∈ as, NDG S d lg a k := by
  induction as with
  | nil => simp [NDGList]
  | cons a as ih => simp [NDGList, ih]

/-! ### the fragment of `ty` inside that of `tyk`, at every budget and without side conditions -/

theorem tyk_of_ty (d : Nat) (e : E) (τ : Ty) (h : ty d e = some τ) (k : Nat) : tyk d e k = some τ := by
  induction e using E.induction generalizing τ k with
  | num _ _ | cst _ | sym _ | sf _ _ | vf _ _ => exact h
  | idx b i _ => cases b <;> cases h; rfl
  | add as ih =>
    obtain ⟨hne, hm⟩ := ty_add_inv d as τ h
    exact (tyk_add d as k τ).mpr ⟨hne, fun a ha => ih a ha τ (hm a ha) k⟩
  | mul as ih =>
    obtain ⟨a, rest, τa, τs, rfl, ha, hF, hτs⟩ := ty_mul_inv d as τ h
    exact (tyk_mul d a rest k τ).mpr ⟨τa, τs, ih a (by simp) τa ha k,
      forall₂_imp_mem hF fun x hx τx hτx => ih x (by simp [hx]) τx hτx k, hτs⟩
  | op1 o a iha =>
    obtain ⟨τa, ha, h⟩ := Option.bind_eq_some_iff.mp h
    exact Option.bind_eq_some_iff.mpr ⟨τa, iha τa ha _, h⟩
  | op2 o a b iha ihb =>
    obtain ⟨τa, ha, h⟩ := Option.bind_eq_some_iff.mp h
    obtain ⟨τb, hb, h⟩ := Option.bind_eq_some_iff.mp h
    exact Option.bind_eq_some_iff.mpr ⟨τa, iha τa ha _, Option.bind_eq_some_iff.mpr ⟨τb, ihb τb hb _, h⟩⟩
  | _ => cases h

theorem NDG_of_ty (S : DRing K) (d : Nat) (lg : Bool) (e : E) (h : ∃ τ, ty d e = some τ) (k : Nat) :
    NDG S d lg e k := by
  induction e using E.induction generalizing k with
  | add as ih => exact (NDGList_iff S d lg as k).mpr fun a ha => ih a ha (ty_add_sub d as h a ha) k
  | mul as ih => exact (NDGList_iff S d lg as k).mpr fun a ha => ih a ha (ty_mul_sub d as h a ha) k
  | op1 o a iha => exact iha (ty_op1_sub d o a h) _
  | op2 o a b iha ihb => exact ⟨iha (ty_op2_sub d o a b h).1 _, ihb (ty_op2_sub d o a b h).2 _⟩
  | pow _ _ _ _ | fn _ _ _ => exact h.elim fun _ h => nomatch h
  | _ => trivial

theorem ty_rank (d : Nat) (e : E) (τ : Ty) (h : ty d e = some τ) : rank d e = rk τ :=
  tyk_rank d e 0 τ (tyk_of_ty d e τ h 0)

theorem ty_indexFree (S : DRing K) (d : Nat) (lg : Bool) (e : E) (h : ty d e = some .s) :
    ∀ i j, denG S d lg e i j = denG S d lg e 0 0 :=
  tyk_indexFree S d lg e 0 (tyk_of_ty d e .s h 0)

end Sympde.Lower

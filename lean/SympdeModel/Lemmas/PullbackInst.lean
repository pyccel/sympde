/-
  C03, non-vacuity: a concrete pair of differential rings related by `PB.MapRel` for a
  genuinely non-trivial mapping, so that `PB.logical_sound` is not vacuous.

  Carrier: `PolyC = MvPolynomial Coord ℂ`, polynomials in the six indeterminates
  `x y z x1 x2 x3` over ℂ.  (ℂ and not ℚ: `FnTable` asks for a total `tan` with
  `tan' = 1 + tan²`; in a polynomial ring with the formal derivatives this forces `tan` to be a
  constant `t` with `t² = -1`, which does not exist over ℚ: compare degrees in
  `∂(tan x1)/∂x1 = 1 + (tan x1)²`.)

  Shared part of both rings (`mkRing`):
    inv p        = C ((coeff 0 p)⁻¹)        (a true inverse on the non-zero constants)
    log a        = inv a · a,  log' = inv    (chain rule holds: `inv a` is a constant)
    tan a        = C I,        tan' = 0 = 1 + (C I)²
    sin cos exp sinh cosh = 0                (forced: e.g. `E' = E·a'` has no non-zero polynomial solution)
    any other function name: a ↦ a², derivative 2a      (as in `polyDRing`)
    rpow = 0

  The mapping is the affine map of the plane
        F(x1, x2) = (2·x1 + x2, x2),   Jacobian [[2, 1], [0, 1]],   det 2,
        inverse Jacobian [[1/2, -1/2], [0, 1]].

  `SL` (logical reading): `D c = pderiv c`, coordinate symbols = indeterminates.
  `SP` (physical reading at the image point, as a function of the logical point):
        dx = ½ ∂/∂x1,   dy = -½ ∂/∂x1 + ∂/∂x2,   dz = ∂/∂z,
        sym "x" = 2·x1 + x2,   sym "y" = x2,
    functions = push-forwards of the logical ones by kind (H1: û, L2: û/2, H(curl): J⁻ᵀû,
    H(div): Jû/2).  The law `DRing.D_sym` speaks about *every* symbol and operator, also the
    logical names which never occur in a physical expression; in `SP` these are parked on the
    unused indeterminates: `dx1 = ∂/∂x`, `dx2 = ∂/∂y`, `sym "x1" = x`, `sym "x2" = y`.
-/
import Mathlib.Data.Complex.Basic
import Mathlib.Algebra.Algebra.Rat
import Mathlib.Algebra.MvPolynomial.PDeriv
import Mathlib.Algebra.MvPolynomial.CommRing
import SympdeModel.Lemmas.PullbackSem
import SympdeModel.Sem.Instances
open MvPolynomial
namespace Sympde
namespace PBInst
open E PD PB
open DRing (sumN)

abbrev PolyC := MvPolynomial Coord ℂ

theorem algebraMap_rat (r : ℚ) : algebraMap ℚ PolyC r = C (r : ℂ) := by
  rw [MvPolynomial.algebraMap_apply]; simp

/-! ### constant-coefficient first-order operators -/

/-- `a ∂/∂c₁ + b ∂/∂c₂` -/
noncomputable def lin2 (a b : ℂ) (c1 c2 : Coord) (p : PolyC) : PolyC :=
  C a * pderiv c1 p + C b * pderiv c2 p

theorem lin2_add (a b : ℂ) (c1 c2 : Coord) (p q : PolyC) :
    lin2 a b c1 c2 (p + q) = lin2 a b c1 c2 p + lin2 a b c1 c2 q := by
  simp only [lin2, map_add]; ring

theorem lin2_mul (a b : ℂ) (c1 c2 : Coord) (p q : PolyC) :
    lin2 a b c1 c2 (p * q) = p * lin2 a b c1 c2 q + lin2 a b c1 c2 p * q := by
  simp only [lin2, Derivation.leibniz, smul_eq_mul]; ring

theorem lin2_C (a b : ℂ) (c1 c2 : Coord) (z : ℂ) : lin2 a b c1 c2 (C z) = 0 := by
  simp [lin2]

theorem lin2_comm (a b a' b' : ℂ) (c1 c2 c1' c2' : Coord) (p : PolyC) :
    lin2 a b c1 c2 (lin2 a' b' c1' c2' p) = lin2 a' b' c1' c2' (lin2 a b c1 c2 p) := by
  simp only [lin2, map_add, Derivation.leibniz, smul_eq_mul, pderiv_C, mul_zero, add_zero]
  rw [pderiv_pderiv_comm c1 c1' p, pderiv_pderiv_comm c1 c2' p, pderiv_pderiv_comm c2 c1' p,
    pderiv_pderiv_comm c2 c2' p]
  ring

/-- a family of constant-coefficient operators, one per coordinate operator -/
structure Ops where
  a : Coord → ℂ
  b : Coord → ℂ
  u : Coord → Coord
  v : Coord → Coord

noncomputable def Ops.D (O : Ops) (c : Coord) (p : PolyC) : PolyC := lin2 (O.a c) (O.b c) (O.u c) (O.v c) p

theorem Ops.D_X (O : Ops) (c c' : Coord) :
    O.D c (X c') = C (O.a c) * (if O.u c = c' then 1 else 0) + C (O.b c) * (if O.v c = c' then 1 else 0) := by
  simp only [Ops.D, lin2, pderiv_X, Pi.single_apply, eq_comm]

/-! ### the shared interpretation of inverse and elementary functions -/

noncomputable def invC (p : PolyC) : PolyC := C ((coeff 0 p)⁻¹)

def isZeroFn (f : String) : Bool :=
  f == "sin" || f == "cos" || f == "exp" || f == "sinh" || f == "cosh"

noncomputable def fnC (f : String) (a : PolyC) : PolyC :=
  if f = "log" then invC a * a
  else if f = "tan" then C Complex.I
  else if isZeroFn f then 0
  else a * a

noncomputable def fnC' (f : String) (a : PolyC) : PolyC :=
  if f = "log" then invC a
  else if f = "tan" then 0
  else if isZeroFn f then 0
  else 2 * a

/-- the differential ring on `PolyC` with operators `O`, symbols `σ`, functions `sfv`, `vfv`,
    constants `cstv` -/
noncomputable def mkRing (O : Ops) (σ : String → PolyC)
    (hσ : ∀ c s, O.D c (σ s) = if s = c.name then 1 else 0)
    (sfv : String → PolyC) (vfv : String → Nat → PolyC) (cstv : String → ℂ) : DRing PolyC where
  D := O.D
  D_add c p q := lin2_add _ _ _ _ p q
  D_mul c p q := lin2_mul _ _ _ _ p q
  D_comm c c' p := lin2_comm _ _ _ _ _ _ _ _ p
  D_rat c r := by rw [algebraMap_rat]; exact lin2_C _ _ _ _ _
  sf := sfv
  vf := vfv
  cst s := C (cstv s)
  D_cst c s := lin2_C _ _ _ _ _
  sym := σ
  D_sym := hσ
  fn := fnC
  fn' := fnC'
  D_fn c f p := by
    unfold fnC fnC'
    split
    · show O.D c (C _ * p) = _
      unfold Ops.D
      rw [lin2_mul, lin2_C]; simp [invC]
    · split
      · unfold Ops.D; rw [lin2_C]; simp
      · split
        · have : O.D c 0 = 0 := by
            have := lin2_C (O.a c) (O.b c) (O.u c) (O.v c) 0
            simpa [Ops.D] using this
          rw [this]; simp
        · unfold Ops.D; rw [lin2_mul]; ring
  inv := invC
  rpow _ _ := 0
  D_rpow c b e := by
    have : O.D c 0 = 0 := by
      have := lin2_C (O.a c) (O.b c) (O.u c) (O.v c) 0
      simpa [Ops.D] using this
    rw [this]; simp
  rpow_pred b e _ := by simp

theorem mkRing_fnTable (O : Ops) (σ : String → PolyC) hσ sfv vfv cstv :
    FnTable (mkRing O σ hσ sfv vfv cstv) where
  sin x := by simp [mkRing, fnC, fnC', isZeroFn]
  cos x := by simp [mkRing, fnC, fnC', isZeroFn]
  exp x := by simp [mkRing, fnC, fnC', isZeroFn]
  log x := by simp [mkRing, fnC']
  sinh x := by simp [mkRing, fnC, fnC', isZeroFn]
  cosh x := by simp [mkRing, fnC, fnC', isZeroFn]
  tan x := by
    simp only [mkRing, fnC, fnC']
    simp only [show ("tan" = "log") = False from by decide, if_false, if_true]
    rw [← map_pow, Complex.I_sq]; simp

/-! ### the affine mapping `F(x1, x2) = (2·x1 + x2, x2)` -/

section Affine2

noncomputable def half : PolyC := C 2⁻¹

theorem two_mul_half : (2 : PolyC) * half = 1 := by
  unfold half
  rw [show (2 : PolyC) = C 2 from (map_ofNat C 2).symm, ← C_mul]
  norm_num

theorem C_two : (C 2 : PolyC) = 2 := map_ofNat C 2

theorem pderiv_two (c : Coord) : pderiv c (2 : PolyC) = 0 := by
  rw [show (2 : PolyC) = C 2 from (map_ofNat C 2).symm]; simp

theorem invC_two : invC (2 : PolyC) = half := by
  unfold invC half
  rw [show (2 : PolyC) = C 2 from (map_ofNat C 2).symm]
  simp

variable (sfv : String → PolyC) (vfv : String → Nat → PolyC) (cstv par : String → ℂ)
  (κs κv : String → Kind)

/-- logical operators: the formal partial derivatives -/
def opsL : Ops := { a := fun _ => 1, b := fun _ => 0, u := id, v := id }

theorem opsL_D (c : Coord) (p : PolyC) : opsL.D c p = pderiv c p := by
  simp [Ops.D, opsL, lin2]

/-- coordinate symbols are the indeterminates, any other symbol is a (constant) parameter -/
noncomputable def symL (s : String) : PolyC :=
  match Coord.ofName s with
  | some c => X c
  | none => C (par s)

theorem symL_D (c : Coord) (s : String) : opsL.D c (symL par s) = if s = c.name then 1 else 0 := by
  rw [opsL_D]
  unfold symL
  cases h : Coord.ofName s with
  | none =>
    have : s ≠ c.name := by
      intro e; rw [e, Coord.ofName_name] at h; cases h
    simp [this]
  | some c' =>
    have hs := Coord.name_of_ofName h
    simp only [pderiv_X, Pi.single_apply]
    by_cases hc : c' = c
    · subst hc; simp [hs]
    · have : s ≠ c.name := by
        intro e; rw [hs] at e; exact hc (Coord.name_inj e)
      simp [hc, this]

/-- the logical reading -/
noncomputable def SL : DRing PolyC := mkRing opsL (symL par) (symL_D par) sfv vfv cstv

/-- physical operators through the inverse Jacobian `[[1/2, -1/2], [0, 1]]`;
    the logical names are parked on the unused indeterminates `x`, `y` -/
noncomputable def opsP : Ops where
  a := fun c => match c with | .x => 2⁻¹ | .y => -2⁻¹ | _ => 1
  b := fun c => match c with | .y => 1 | _ => 0
  u := fun c => match c with | .x => .x1 | .y => .x1 | .z => .z | .x1 => .x | .x2 => .y | .x3 => .x3
  v := fun c => match c with | .x => .x1 | .y => .x2 | .z => .z | .x1 => .x | .x2 => .y | .x3 => .x3

noncomputable def symP (s : String) : PolyC :=
  if s = "x" then 2 * X .x1 + X .x2
  else if s = "y" then X .x2
  else if s = "x1" then X .x
  else if s = "x2" then X .y
  else symL par s

/-- `D_sym` on the images of the six coordinate symbols: the columns of the inverse Jacobian against
    the components of the mapping -/
theorem opsP_D_coord (c : Coord) :
    opsP.D c (2 * X .x1 + X .x2) = (if "x" = c.name then 1 else 0) ∧
    opsP.D c (X .x2) = (if "y" = c.name then 1 else 0) ∧
    opsP.D c (X .x) = (if "x1" = c.name then 1 else 0) ∧
    opsP.D c (X .y) = (if "x2" = c.name then 1 else 0) ∧
    opsP.D c (X .z) = (if "z" = c.name then 1 else 0) ∧
    opsP.D c (X .x3) = (if "x3" = c.name then 1 else 0) := by
  have hh : (2 : PolyC) * C 2⁻¹ = 1 := two_mul_half
  rw [show opsP.D c (2 * X .x1 + X .x2) = 2 * opsP.D c (X .x1) + opsP.D c (X .x2) from by
    unfold Ops.D; rw [lin2_add, ← C_two, lin2_mul, lin2_C, zero_mul, add_zero]]
  simp only [Ops.D_X]
  cases c <;> simp only [opsP, Coord.name, reduceCtorEq, if_false, if_true, mul_zero, mul_one, add_zero, zero_add,
    C_1, C_0, String.reduceEq, hh, C_neg, mul_neg, neg_add_cancel, and_self]

theorem symP_D (c : Coord) (s : String) : opsP.D c (symP par s) = if s = c.name then 1 else 0 := by
  obtain ⟨hx, hy, hx1, hx2, hz, hx3⟩ := opsP_D_coord c
  unfold symP
  by_cases h1 : s = "x"
  · subst h1; rw [if_pos rfl]; exact hx
  rw [if_neg h1]
  by_cases h2 : s = "y"
  · subst h2; rw [if_pos rfl]; exact hy
  rw [if_neg h2]
  by_cases h3 : s = "x1"
  · subst h3; rw [if_pos rfl]; exact hx1
  rw [if_neg h3]
  by_cases h4 : s = "x2"
  · subst h4; rw [if_pos rfl]; exact hx2
  rw [if_neg h4]
  unfold symL
  cases h : Coord.ofName s with
  | none =>
    have : s ≠ c.name := by
      intro e; rw [e, Coord.ofName_name] at h; cases h
    rw [if_neg this]
    exact lin2_C ..
  | some c' =>
    have hs := Coord.name_of_ofName h
    subst hs
    cases c' with
    | x => exact absurd rfl h1
    | y => exact absurd rfl h2
    | x1 => exact absurd rfl h3
    | x2 => exact absurd rfl h4
    | z => exact hz
    | x3 => exact hx3

theorem opsP_Dx (k : PolyC) : opsP.D .x k = half * pderiv .x1 k := by
  simp [Ops.D, opsP, lin2, half]

theorem opsP_Dy (k : PolyC) : opsP.D .y k = -half * pderiv .x1 k + pderiv .x2 k := by
  simp [Ops.D, opsP, lin2, half]

/-- physical scalar functions: the push-forward of the logical one by kind -/
noncomputable def sfP (s : String) : PolyC :=
  match κs s with
  | .l2 => sfv s * half
  | _ => sfv s

/-- physical vector functions: H(curl) `J⁻ᵀ û`, H(div) `J û / det`, L2 `û / det`, else `û` -/
noncomputable def vfP (s : String) (i : Nat) : PolyC :=
  match κv s, i with
  | .hcurl, 0 => half * vfv s 0
  | .hcurl, 1 => -half * vfv s 0 + vfv s 1
  | .hdiv, 0 => (2 * vfv s 0 + vfv s 1) * half
  | .hdiv, 1 => vfv s 1 * half
  | .l2, i => vfv s i * half
  | _, i => vfv s i

/-- the physical reading at the image point -/
noncomputable def SP : DRing PolyC :=
  mkRing opsP (symP par) (symP_D par) (sfP sfv κs) (vfP vfv κv) cstv

def F0 : E := add [mul [num 2 1, sym "x1"], sym "x2"]
def F1 : E := sym "x2"
def M2 : Mp := { name := "", d := 2, F := [F0, F1] }

def e00 : E := add [add [mul [num 0 1, sym "x1"],
  mul [num 2 1, add [mul [num 1 1], mul [sym "x1", num 0 1]]]], num 0 1]
def e01 : E := add [add [mul [num 0 1, sym "x1"],
  mul [num 2 1, add [mul [num 0 1], mul [sym "x1", num 0 1]]]], num 1 1]
def e10 : E := num 0 1
def e11 : E := num 1 1

/-- the Jacobian the model computes for `M2` (`jacOf_M2`) -/
def jj : Jac := { d := 2, J := fun i l => ([[e00, e01], [e10, e11]].getD i []).getD l zero }

theorem jacOf_M2 : jacOf M2 = .ok jj := by rfl

/-- the components of the mapping as the model sees them -/
def Fn : Nat → E := M2.comp

section
variable {K : Type} [CommRing K] [Algebra ℚ K] (S : DRing K) (a b : Nat)

/-! the entries of the computed Jacobian denote `[[2, 1], [0, 1]]` in every differential ring -/

theorem den_e00 : den S e00 a b = 2 := by
  simp only [e00, den, denSum, denProd, Int.cast_zero, Int.cast_one, Int.cast_ofNat, Nat.cast_one, div_one,
    map_zero, map_one, map_ofNat, zero_mul, mul_zero, mul_one, add_zero, zero_add]
theorem den_e01 : den S e01 a b = 1 := by
  simp only [e01, den, denSum, denProd, Int.cast_zero, Int.cast_one, Int.cast_ofNat, Nat.cast_one, div_one,
    map_zero, map_one, map_ofNat, zero_mul, mul_zero, mul_one, add_zero, zero_add]
theorem den_e10 : den S e10 a b = 0 := by
  simp only [e10, den, Int.cast_zero, Nat.cast_one, div_one, map_zero]
theorem den_e11 : den S e11 a b = 1 := by
  simp only [e11, den, Int.cast_one, Nat.cast_one, div_one, map_one]

theorem den_detJ : den S (detJ jj) a b = 2 := by
  simp only [detJ, jj, den_sub, den_mul2, List.getD_cons_zero, List.getD_cons_succ,
    den_e00, den_e01, den_e10, den_e11]
  ring

/-- the inverse Jacobian `[[1/2, -1/2], [0, 1]]` -/
theorem den_invJ_jj (h : 2 * S.inv 2 = 1) :
    den S (invJ jj 0 0) a b = S.inv 2 ∧ den S (invJ jj 0 1) a b = -S.inv 2 ∧ den S (invJ jj 1 0) a b = 0 ∧
      den S (invJ jj 1 1) a b = 1 := by
  simp only [den_invJ, den_detJ]
  simp only [adjJ, jj, den_neg, List.getD_cons_zero, List.getD_cons_succ, den_e00, den_e01, den_e10, den_e11,
    neg_zero, zero_mul, one_mul, neg_mul, true_and]
  exact h

end

theorem symL_x1 : symL par "x1" = X .x1 := by simp [symL, Coord.ofName]
theorem symL_x2 : symL par "x2" = X .x2 := by simp [symL, Coord.ofName]

theorem mapRel : MapRel (SL sfv vfv cstv par) (SP sfv vfv cstv par κs κv) "" jj Fn κs κv where
  d_pos := by decide
  d_le := by decide
  fn_eq := rfl
  inv_eq := rfl
  rpow_eq := rfl
  cst_eq := rfl
  sym_coord i hi a b := by
    have hi : i < 2 := hi
    match i, hi with
    | 0, _ =>
      show symP par "x" = den _ F0 a b
      simp [symP, F0, den, denSum, denProd, SL, mkRing, symL_x1, symL_x2, C_two]
    | 1, _ =>
      show symP par "y" = den _ F1 a b
      simp [symP, F1, den, SL, mkRing, symL_x2]
  sym_other s hp hl := by
    show symP par s = symL par s
    have h1 : s ≠ "x" := by
      intro e; subst e; have := hp 0 rfl; exact absurd this (by decide)
    have h2 : s ≠ "y" := by
      intro e; subst e; have := hp 1 rfl; exact absurd this (by decide)
    have h3 : s ≠ "x1" := by
      intro e; subst e; exact absurd hl (by decide)
    have h4 : s ≠ "x2" := by
      intro e; subst e; exact absurd hl (by decide)
    simp [symP, h1, h2, h3, h4]
  F_int i := by
    match i with
    | 0 => rfl
    | 1 => rfl
    | _ + 2 => rfl
  F_nd i := by
    match i with
    | 0 => simp [Fn, Mp.comp, M2, F0, NonDeg, NonDegList]
    | 1 => simp [Fn, Mp.comp, M2, F1, NonDeg]
    | _ + 2 => simp [Fn, Mp.comp, M2, zero, NonDeg]
  J_int i l := by
    rcases i with _ | _ | i <;> rcases l with _ | _ | l <;> rfl
  J_nd i l := by
    rcases i with _ | _ | i <;> rcases l with _ | _ | l <;>
      simp only [jj, List.getD_cons_zero, List.getD_cons_succ, List.getD_nil, e00, e01, e10, e11, zero, NonDeg,
        NonDegList, and_self]
  det_unit a b := by
    rw [den_detJ]
    show (2 : PolyC) * invC 2 = 1
    rw [invC_two]; exact two_mul_half
  chain i hi k a b := by
    have hi : i < 2 := hi
    have hinv : (SL sfv vfv cstv par).inv 2 = half := invC_two
    obtain ⟨i00, i01, i10, i11⟩ := den_invJ_jj (SL sfv vfv cstv par) a b (by rw [hinv]; exact two_mul_half)
    match i, hi with
    | 0, _ =>
      show opsP.D .x k = sumN 2 (fun l => den _ (invJ jj l 0) a b * opsL.D (lc l) k)
      simp only [opsP_Dx, sumN, i00, i10, hinv, opsL_D, lc, Coord.ofIdx, if_true]
      ring
    | 1, _ =>
      show opsP.D .y k = sumN 2 (fun l => den _ (invJ jj l 1) a b * opsL.D (lc l) k)
      simp only [opsP_Dy, sumN, i01, i11, hinv, opsL_D, lc, Coord.ofIdx, if_true]
      ring
  sf_pb s a b := by
    show sfP sfv κs s = _
    unfold sfP
    cases κs s
    case l2 =>
      rw [den_mul2, den_invDet, den_detJ]
      show sfv s * half = sfv s * invC 2
      rw [invC_two]
    all_goals rfl
  vf_pb s i hi a b := by
    have hi : i < 2 := hi
    show vfP vfv κv s i = _
    unfold vfP
    have hd : jj.d = 2 := rfl
    have j00 : jj.J 0 0 = e00 := rfl
    have j01 : jj.J 0 1 = e01 := rfl
    have j10 : jj.J 1 0 = e10 := rfl
    have j11 : jj.J 1 1 = e11 := rfl
    have hvf : (SL sfv vfv cstv par).vf = vfv := rfl
    have hinv : (SL sfv vfv cstv par).inv 2 = half := invC_two
    obtain ⟨i00, i01, i10, i11⟩ := den_invJ_jj (SL sfv vfv cstv par) a b (by rw [hinv]; exact two_mul_half)
    match i, hi with
    | 0, _ =>
      cases h : κv s <;>
        simp only [pbVec, hd, sum3, den_idx_vf, den_mul2, den_add2, den_invDet, den_detJ, i00, i10,
          j00, j01, den_e00, den_e01, hvf, hinv] <;> ring
    | 1, _ =>
      cases h : κv s <;>
        simp only [pbVec, hd, sum3, den_idx_vf, den_mul2, den_add2, den_invDet, den_detJ, i01, i11,
          j10, j11, den_e10, den_e11, hvf, hinv] <;> ring

theorem SP_Dx (k : PolyC) : (SP sfv vfv cstv par κs κv).D .x k = half * pderiv .x1 k := opsP_Dx k

theorem SP_Dy (k : PolyC) :
    (SP sfv vfv cstv par κs κv).D .y k = -half * pderiv .x1 k + pderiv .x2 k := opsP_Dy k

theorem SP_sym_x : (SP sfv vfv cstv par κs κv).sym "x" = 2 * X .x1 + X .x2 := by
  show symP par "x" = _
  simp [symP]

theorem SP_sym_y : (SP sfv vfv cstv par κs κv).sym "y" = X .x2 := by
  show symP par "y" = _
  simp [symP]

theorem SP_sf (s : String) : (SP sfv vfv cstv par κs κv).sf s = sfP sfv κs s := rfl
theorem SP_vf (s : String) (i : Nat) : (SP sfv vfv cstv par κs κv).vf s i = vfP vfv κv s i := rfl

theorem pderiv_half (c : Coord) : pderiv c half = 0 := by simp [half]

theorem pderiv_half_mul (c : Coord) (p : PolyC) : pderiv c (half * p) = half * pderiv c p := by
  simp [half]

theorem pderiv_mul_half (c : Coord) (p : PolyC) : pderiv c (p * half) = pderiv c p * half := by
  simp [half, mul_comm]

theorem half_ne_zero : half ≠ 0 := by
  intro h
  have := two_mul_half
  rw [h, mul_zero] at this
  exact zero_ne_one this

end Affine2

end PBInst
end Sympde

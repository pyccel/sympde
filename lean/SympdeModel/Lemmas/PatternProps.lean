/-
  Around the loop over the names: the shape of the result (`shape`, an independent description of
  utils.py:151-156), the expansion of a list of well-formed items, which stage of `expandStr` raises
  which error, and what `element_of` / `elements_of` build from a list of names.
-/
import SympdeModel.Lemmas.PatternItem
namespace Sympde.Pat

/-- a well-formed item that can stand as a name of a layout -/
def Item.Good (it : Item) : Prop :=
  it.WF ∧ (it.head ≠ [] ∨ it.tail ≠ [])

/-- whether the item switches the sequence flag on (utils.py:141) -/
def Item.setsSeq (it : Item) : Bool := it.hasRange && !it.den.isEmpty

/-- the shape of the result (independent description of utils.py:151-156): nothing → `()`;
    one name and no sequence flag → the bare name; otherwise a tuple -/
def shape (seq : Bool) : List Str → Res
  | [] => .cont .tuple []
  | [x] => if seq then .cont .tuple [.name x] else .name x
  | xs => .cont .tuple (xs.map .name)

theorem finish_eq_shape (seq : Bool) (xs : List Str) : finish seq xs = shape seq xs := by
  rcases xs with _ | ⟨x, _ | ⟨y, ys⟩⟩ <;> cases seq <;> simp [finish, shape]

theorem shape_tuple (seq : Bool) (xs : List Str) (h : seq = true ∨ xs.length ≠ 1) :
    shape seq xs = .cont .tuple (xs.map .name) := by
  rcases xs with _ | ⟨x, _ | ⟨y, ys⟩⟩
  · rfl
  · rcases h with rfl | h
    · rfl
    · exact absurd rfl h
  · rfl

theorem expandNames_items (items : List Item) (h : ∀ it ∈ items, it.Good) :
    expandNames [] (items.map Item.render)
      = .ok (items.flatMap Item.den, items.any Item.setsSeq) := by
  induction items with
  | nil => rfl
  | cons it its ih =>
    obtain ⟨hg, hrest⟩ := List.forall_mem_cons.mp h
    simp only [List.map_cons, expandNames, expandName_item it hg.1 hg.2, ih hrest, List.flatMap_cons,
      List.any_cons, Item.setsSeq]

theorem cat_length (A B : List Str) : (cat A B).length = A.length * B.length := by
  induction A with
  | nil => simp [cat]
  | cons a A ih =>
    simp only [cat, List.flatMap_cons, List.length_append, List.length_map, List.length_cons] at ih ⊢
    rw [ih, Nat.succ_mul]; omega

/-! ### where errors come from -/

theorem numPiece_error (a b : Str) (e : Err) (h : numPiece a b = .error e) : e = .badRange := by
  unfold numPiece at h
  split at h
  · cases h
  · injection h with h; exact h.symm

theorem alphaPiece_error (a b : Str) (e : Err) (h : alphaPiece a b = .error e) : e = .badRange := by
  unfold alphaPiece at h
  split at h
  · cases h
  · injection h with h; exact h.symm

/-- a piece fails only if it holds a colon: with 'missing end range' if it ends with the colon,
    otherwise as a malformed range -/
theorem expandPiece_error (p : Str) (e : Err) (h : expandPiece p = .error e) :
    ':' ∈ p ∧ ((p.getLast? = some ':' ∧ e = .missingEndRange) ∨
      (p.getLast? ≠ some ':' ∧ e = .badRange)) := by
  unfold expandPiece at h
  split at h
  · rename_i hc
    refine ⟨by simpa using hc, ?_⟩
    split at h
    · rename_i hl
      injection h with h
      exact Or.inl ⟨by simpa using hl, h.symm⟩
    · rename_i hl
      refine Or.inr ⟨by simpa using hl, ?_⟩
      split at h
      · split at h
        · exact numPiece_error _ _ _ h
        · exact alphaPiece_error _ _ _ h
      · injection h with h; exact h.symm
  · cases h

theorem expandPieces_errors (ps : List Str) (e : Err) (h : expandPieces ps = .error e) :
    ∃ p ∈ ps, expandPiece p = .error e := by
  fun_induction expandPieces ps <;> simp_all

theorem expandNames_errors (lits : List (Char × Str)) (ns : List Str) (e : Err)
    (h : expandNames lits ns = .error e) : ∃ n ∈ ns, expandName lits n = .error e := by
  fun_induction expandNames lits ns <;> simp_all

theorem expandName_errors (lits : List (Char × Str)) (n : Str) (e : Err)
    (h : expandName lits n = .error e) :
    (n = [] ∧ e = .missingSymbol) ∨
    (n ≠ [] ∧ ∃ p ∈ stripParens (rangeSplit n), expandPiece p = .error e) := by
  unfold expandName at h
  split at h
  · next hn => cases h; exact Or.inl ⟨by simpa using hn, rfl⟩
  · next hn =>
    split at h
    · cases h
    · split at h
      · next e' hp => cases h; exact Or.inr ⟨by simpa using hn, expandPieces_errors _ _ hp⟩
      · cases h
      · cases h

/-- every failure of the loop over the blank-separated names comes from a piece holding a colon -/
theorem expandNames_error_cause (lits : List (Char × Str)) (fields : List Str) (e : Err)
    (h : expandNames lits (fields.flatMap splitWs) = .error e) :
    (e = .missingEndRange ∨ e = .badRange) ∧
      ∃ n ∈ fields.flatMap splitWs, ∃ p ∈ stripParens (rangeSplit n),
        ':' ∈ p ∧ expandPiece p = .error e := by
  obtain ⟨n, hn, hne⟩ := expandNames_errors _ _ _ h
  rcases expandName_errors _ _ _ hne with ⟨hnil, _⟩ | ⟨_, p, hp, hpe⟩
  · -- names produced by `split()` are never empty
    obtain ⟨f, _, hf⟩ := List.mem_flatMap.mp hn
    exact absurd hnil (splitWs_nonempty f n hf)
  · obtain ⟨hc, he⟩ := expandPiece_error p e hpe
    exact ⟨he.elim (fun h => .inl h.2) (fun h => .inr h.2), n, hn, p, hp, hc, hpe⟩

def Space.isFn : Space → Bool
  | .scalar _ => true
  | .vector _ => true
  | _ => false

/-- the function of that name in a scalar / vector space -/
def Space.mk : Space → Str → Elem
  | .scalar v, n => .fn false n v
  | .vector v, n => .fn true n v
  | _, n => .fn false n ""

theorem element_fn (sp : Space) (h : sp.isFn = true) (n : Str) : sp.element n = .ok (sp.mk n) := by
  cases sp <;> simp_all [Space.isFn, Space.element, Space.mk]

/-- which error `expandStr` raises, stage by stage -/
theorem expandStr_error_iff (seq : SeqArg) (s : Str) (e : Err) :
    expandStr seq s = .error e ↔
      let b := (body (escapeAll s).names).1
      let fields := (splitOn ',' b).map strip
      if b = [] then e = .noSymbols
      else if [] ∈ fields then e = .missingComma
      else if seq = .bad then e = .seqType
      else expandNames (escapeAll s).lits (fields.flatMap splitWs) = .error e := by
  unfold expandStr
  dsimp only
  generalize escapeAll s = st
  generalize body st.names = bd
  obtain ⟨b, asSeq⟩ := bd
  dsimp only
  generalize (splitOn ',' b).map strip = fields
  simp only [List.isEmpty_iff, any_isEmpty_iff]
  by_cases hb : b = []
  · simp [hb, eq_comm]
  by_cases hf : [] ∈ fields
  · simp [hb, hf, eq_comm]
  rcases seq with _ | x | _
  case bad => simp [hb, hf, eq_comm]
  all_goals
    cases expandNames st.lits (fields.flatMap splitWs) <;> simp [hb, hf]

theorem elementOf_str (sp : Space) (h : isSpaceObj sp = true) (s : Str) :
    elementOf sp (.str s) = match expandStr .none s with
      | .error e => .error e
      | .ok r => recElem sp r := by
  have : expand .none (.str s) = expandStr .none s := rfl
  rw [elementOf, h, this]
  cases expandStr .none s <;> rfl

theorem elementsOf_str (sp : Space) (h : isSpaceObj sp = true) (s : Str) :
    elementsOf sp (.str s) = match expandStr (.some true) s with
      | .error e => .error e
      | .ok r => recElems sp r := by
  have : expand (.some true) (.str s) = expandStr (.some true) s := rfl
  rw [elementsOf, h, this]
  cases expandStr (.some true) s <;> rfl

theorem isSpaceObj_of_isFn {sp : Space} (h : sp.isFn = true) : isSpaceObj sp = true := by
  cases sp <;> simp_all [Space.isFn, isSpaceObj]

theorem recElemZip_names (sps : List Space) (hs : ∀ sp ∈ sps, sp.isFn = true) (names : List Str) :
    recElemZip sps (names.map .name) = .ok (List.zipWith Space.mk sps names) := by
  induction sps generalizing names with
  | nil => simp [recElemZip]
  | cons sp sps ih =>
    cases names with
    | nil => simp [recElemZip]
    | cons n ns =>
      simp [recElemZip, recElem, element_fn sp (hs sp (by simp)), ih (fun x hx => hs x (by simp [hx])) ns]

theorem recElemsAll_names (sp : Space) (h : sp.isFn = true) (names : List Str) :
    recElemsAll sp (names.map .name) = .ok (names.map sp.mk) := by
  induction names with
  | nil => simp [recElemsAll]
  | cons n ns ih => simp [recElemsAll, recElems, element_fn sp h, ih]

end Sympde.Pat

/-
  Soundness of `RingEq.ringEq` (Model/RingEq.lean): expressions it declares equal have the same
  classical meaning (`denG`, scalar reading) in every differential ring.  The ring reasoning is
  core's verified polynomial normaliser (`Lean.Grind.CommRing.Expr.eq_of_toPoly_eq`).
-/
import Mathlib.Algebra.Ring.GrindInstances
import SympdeModel.Sem.DenG
import SympdeModel.Model.RingEq
import SympdeModel.Lemmas.Subst
namespace Sympde.RingEq
open E
open Lean.Grind.CommRing (Expr Context)
open DRing (sumN sumN_congr)

variable {K : Type} [CommRing K] [Algebra ℚ K]

/-! ### the copy of `rank` -/

theorem rankM_eq (d : Nat) (e : E) : rankM d e = rank d e := by
  induction e using E.rec
    (motive_2 := fun as => rankHeadM d as = rankHead d as ∧ rankMaxM d as = rankMax d as) with
  | nil => exact ⟨rfl, rfl⟩
  | cons a as iha ihas => exact ⟨iha, by rw [rankMaxM, rankMax, iha, ihas.2]⟩
  | add as ih => exact ih.1
  | mul as ih => exact ih.2
  | pd c a ih => exact ih
  | op1 o a ih => cases o <;> simp only [rankM, rank, ih]
  | op2 o a b iha ihb => cases o <;> simp only [rankM, rank, iha, ihb]
  | _ => rfl

/-! ### contexts -/

/-- the context whose variable `off + i` is the i-th element of the list -/
def mkCtx (off : Nat) : List K → Lean.RArray K
  | [] => .leaf 0
  | a :: rest => .branch (off + 1) (.leaf a) (mkCtx (off + 1) rest)

omit [Algebra ℚ K] in
theorem mkCtx_get (off : Nat) (l : List K) (i : Nat) (h : i < l.length) :
    (mkCtx off l).get (off + i) = l[i] := by
  rw [Lean.RArray.get_eq_getImpl]
  induction l generalizing off i with
  | nil => simp at h
  | cons a rest ih =>
    cases i with
    | zero => simp [mkCtx, Lean.RArray.getImpl]
    | succ i =>
      simp only [mkCtx, Lean.RArray.getImpl]
      rw [if_neg (by omega)]
      have := ih (off + 1) i (by simpa using h)
      rw [show off + (i + 1) = off + 1 + i by omega]
      simpa using this

def atomVals (S : DRing K) (d : Nat) (lg : Bool) (atoms : List E) : List K :=
  atoms.map (fun t => denG S d lg t 0 0)

def ctxOf (S : DRing K) (d : Nat) (lg : Bool) (atoms : List E) : Context K :=
  mkCtx 0 (atomVals S d lg atoms)

theorem ctxOf_get (S : DRing K) (d : Nat) (lg : Bool) (atoms : List E) (i : Nat) (h : i < atoms.length) :
    (ctxOf S d lg atoms).get i = denG S d lg atoms[i] 0 0 := by
  have := mkCtx_get 0 (atomVals S d lg atoms) i (by simpa [atomVals] using h)
  simpa [ctxOf, atomVals] using this

/-! ### atoms -/

theorem dot_swap (S : DRing K) (d : Nat) (lg : Bool) (a b : E) (h : ¬ (rank d a = 2 ∧ rank d b = 2))
    (i j : Nat) : denG S d lg (op2 .dot a b) i j = denG S d lg (op2 .dot b a) i j := by
  simp only [denG]
  by_cases ha : rank d a = 2
  · rw [if_pos ha, if_neg (fun hb => h ⟨ha, hb⟩), if_pos ha]
  · by_cases hb : rank d b = 2
    · rw [if_neg ha, if_pos hb, if_pos hb]
    · rw [if_neg ha, if_neg hb, if_neg hb, if_neg ha]
      exact sumN_congr d _ _ (fun k _ => _root_.mul_comm _ _)

theorem inner_swap (S : DRing K) (d : Nat) (lg : Bool) (a b : E) (h : rank d a = 2 ↔ rank d b = 2)
    (i j : Nat) : denG S d lg (op2 .inner a b) i j = denG S d lg (op2 .inner b a) i j := by
  simp only [denG]
  by_cases ha : rank d a = 2
  · rw [if_pos ha, if_pos (h.mp ha)]
    exact sumN_congr d _ _ (fun k _ => sumN_congr d _ _ (fun l _ => _root_.mul_comm _ _))
  · rw [if_neg ha, if_neg (fun hb => ha (h.mpr hb))]
    exact sumN_congr d _ _ (fun k _ => _root_.mul_comm _ _)

theorem eqAtom_sound (S : DRing K) (d : Nat) (lg : Bool) (t s : E) (h : eqAtom d t s = true) (i j : Nat) :
    denG S d lg t i j = denG S d lg s i j := by
  unfold eqAtom at h
  rcases Bool.or_eq_true_iff.mp h with h | h
  · rw [Sub.eqb_eq t s h]
  · cases t with
    | op2 o a b =>
      cases s with
      | op2 o' a' b' =>
        simp only [Bool.and_eq_true, beq_iff_eq] at h
        obtain ⟨⟨⟨ho, hs⟩, h1⟩, h2⟩ := h
        subst ho
        rw [← Sub.eqb_eq a b' h1, ← Sub.eqb_eq b a' h2]
        cases o <;> simp [symOK, rankM_eq] at hs
        · exact dot_swap S d lg a b (fun hh => by simp [hh.1, hh.2] at hs) i j
        · exact inner_swap S d lg a b (by
            constructor
            · intro ha; by_contra hb; simp [ha, hb] at hs
            · intro hb; by_contra ha; simp [ha, hb] at hs) i j
      | _ => simp at h
    | _ => simp at h

theorem findAtom_spec (d : Nat) (t : E) (atoms : List E) (k i : Nat) (h : findAtom d t atoms k = some i) :
    ∃ j, i = k + j ∧ ∃ hj : j < atoms.length, eqAtom d atoms[j] t = true := by
  induction atoms generalizing k with
  | nil => simp [findAtom] at h
  | cons s rest ih =>
    simp only [findAtom] at h
    split at h
    · rename_i hs
      injection h with h
      exact ⟨0, by omega, by simp, by simpa using hs⟩
    · obtain ⟨j, hj, hlt, he⟩ := ih (k + 1) h
      exact ⟨j + 1, by omega, by simp; omega, by simpa using he⟩

/-- the invariant of the translation, for a result `r` that is to denote `v`: the table is only
    extended, and `r` denotes `v` whatever is appended to the table afterwards -/
def GoodV (S : DRing K) (d : Nat) (lg : Bool) (atoms : List E) (v : K) (r : GExpr × List E) : Prop :=
  (∃ ext, r.2 = atoms ++ ext) ∧ ∀ more, r.1.denote (ctxOf S d lg (r.2 ++ more)) = v

def Good (S : DRing K) (d : Nat) (lg : Bool) (atoms : List E) (e : E) (r : GExpr × List E) : Prop :=
  GoodV S d lg atoms (denG S d lg e 0 0) r

/-- a binary node: the second argument is translated with the table left by the first -/
theorem GoodV.bin {S : DRing K} {d : Nat} {lg : Bool} {atoms : List E} {v1 v2 : K} {r1 r2 : GExpr × List E}
    (op : GExpr → GExpr → GExpr) (f : K → K → K)
    (hop : ∀ (ctx : Context K) a b, (op a b).denote ctx = f (a.denote ctx) (b.denote ctx))
    (h1 : GoodV S d lg atoms v1 r1) (h2 : GoodV S d lg r1.2 v2 r2) :
    GoodV S d lg atoms (f v1 v2) (op r1.1 r2.1, r2.2) := by
  obtain ⟨⟨e1, he1⟩, hd1⟩ := h1
  obtain ⟨⟨e2, he2⟩, hd2⟩ := h2
  refine ⟨⟨e1 ++ e2, by rw [he2, he1, List.append_assoc]⟩, fun more => ?_⟩
  have := hd1 (e2 ++ more)
  rw [← List.append_assoc, ← he2] at this
  rw [hop, this, hd2 more]

theorem atomVar_good (S : DRing K) (d : Nat) (lg : Bool) (atoms : List E) (t : E) :
    Good S d lg atoms t (atomVar d atoms t) := by
  unfold atomVar
  cases hf : findAtom d t atoms 0 with
  | some i =>
    obtain ⟨j, hj, hlt, he⟩ := findAtom_spec d t atoms 0 i hf
    have hij : i = j := by omega
    subst hij
    refine ⟨⟨[], by simp⟩, ?_⟩
    intro more
    show (ctxOf S d lg (atoms ++ more)).get i = _
    rw [ctxOf_get S d lg (atoms ++ more) i (by simp; omega)]
    rw [List.getElem_append_left hlt]
    exact eqAtom_sound S d lg _ _ he 0 0
  | none =>
    refine ⟨⟨[t], rfl⟩, ?_⟩
    intro more
    show (ctxOf S d lg (atoms ++ [t] ++ more)).get atoms.length = _
    rw [ctxOf_get S d lg (atoms ++ [t] ++ more) atoms.length (by simp)]
    simp

theorem natLit_spec {e : E} {n : Nat} (h : natLit e = some n) : e = num (Int.ofNat n) 1 := by
  cases e <;> simp [natLit] at h
  rename_i p q
  split at h
  · rename_i heq
    injection heq with hp hq
    subst hp hq
    split at h
    · rename_i hp
      injection h with h
      rw [← h]
      congr 1
      exact (Int.toNat_of_nonneg hp).symm
    · cases h
  · cases h

theorem toG_good (S : DRing K) (d : Nat) (lg : Bool) (e : E) :
    ∀ atoms, Good S d lg atoms e (toG d atoms e) := by
  induction e using E.rec
    (motive_2 := fun as => ∀ atoms, GoodV S d lg atoms (denGSum S d lg as 0 0) (toGSum d atoms as) ∧
      GoodV S d lg atoms (denGProd S d lg as 0 0) (toGProd d atoms as)) with
  | num p q =>
    intro atoms
    simp only [toG]
    split
    · rename_i hq
      have hq1 : q = 1 := by simpa using hq
      subst hq1
      refine ⟨⟨[], by simp⟩, ?_⟩
      intro more
      show ((p : Int) : K) = _
      simp [denG]
    · exact atomVar_good S d lg atoms _
  | add as ih => intro atoms; exact ⟨(ih atoms).1.1, fun more => by simpa [toG, denG] using (ih atoms).1.2 more⟩
  | mul as ih => intro atoms; exact ⟨(ih atoms).2.1, fun more => by simpa [toG, denG] using (ih atoms).2.2 more⟩
  | pow b e ihb _ =>
    intro atoms
    simp only [toG]
    cases hn : natLit e with
    | none => exact atomVar_good S d lg atoms _
    | some n =>
      have he := natLit_spec hn
      subst he
      obtain ⟨hext, hden⟩ := ihb atoms
      refine ⟨hext, ?_⟩
      intro more
      show ((toG d atoms b).1.denote _) ^ n = _
      rw [hden more]
      simp [denG, powSem, PD.intLit]
  | nil =>
    rename_i atoms
    refine ⟨⟨⟨[], by simp [toGSum]⟩, ?_⟩, ⟨⟨[], by simp [toGProd]⟩, ?_⟩⟩
    · intro more; show ((0 : Int) : K) = _; simp [denGSum]
    · intro more; show ((1 : Int) : K) = _; simp [denGProd]
  | cons a as iha ihas =>
    rename_i atoms
    exact ⟨GoodV.bin .add (· + ·) (fun _ _ _ => rfl) (iha atoms) (ihas _).1,
      GoodV.bin .mul (· * ·) (fun _ _ _ => rfl) (iha atoms) (ihas _).2⟩
  | _ => intro atoms; exact atomVar_good S d lg atoms _

theorem ringEq_sound (S : DRing K) (d : Nat) (lg : Bool) (a b : E) (h : ringEq d a b = true) :
    denG S d lg a 0 0 = denG S d lg b 0 0 := by
  unfold ringEq at h
  simp only at h
  obtain ⟨_, hda⟩ := toG_good S d lg a []
  obtain ⟨⟨ext, hext⟩, hdb⟩ := toG_good S d lg b (toG d [] a).2
  have h1 := hda ext
  have h2 := hdb []
  rw [← hext] at h1
  rw [List.append_nil] at h2
  rw [← h1, ← h2]
  exact Expr.eq_of_toPoly_eq _ _ _ h

theorem ringZero_sound (S : DRing K) (d : Nat) (lg : Bool) (a : E) (h : ringZero d a = true) :
    denG S d lg a 0 0 = 0 := by
  have := ringEq_sound S d lg a (num 0 1) h
  simpa [denG] using this

end Sympde.RingEq

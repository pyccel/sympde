/-
  Order bookkeeping (C17).  The independent definition of the true maximal derivative order
  (`trueMax`, full traversal of the tree) is a supremum over the chains `findPd` returns
  (`trueMax_eq_sup`), and so is `maxOrders` (`maxOrders_comp`): the comparison is between two
  suprema, each bounded by the other member by member.
-/
import SympdeModel.Model.Atoms
import SympdeModel.Lemmas.ExprInd
namespace Sympde.Atoms
open E

/-! ### the specification -/

/-- number of derivatives in direction `c` along the chain starting at this node -/
def spineCount (c : Coord) : E → Nat
  | pd c' a => (if c' == c then 1 else 0) + spineCount c a
  | _ => 0

/-- does the chain belong to the requested function (`none` = any function) -/
def matchF (F : Option E) (a : E) : Bool :=
  match F with
  | none => true
  | some f => sameAtom a f

/-- the order in direction `c` contributed by the maximal chain `i`: its number of `c`
    derivatives when it is applied to a (the requested) function or vector component -/
def chainVal (c : Coord) (F : Option E) (i : E) : Nat :=
  if isFunAtom (stripAll i) && matchF F (stripAll i) then spineCount c i else 0

mutual
/-- true maximal order in direction `c` (for function `F`, or overall): the maximum, over all
    maximal derivative chains found by a full traversal of the tree, of the number of `c`
    derivatives of the chain -/
def trueMax (c : Coord) (F : Option E) : E → Nat
  | pd c' a => chainVal c F (pd c' a)
  | add as => trueMaxList c F as
  | mul as => trueMaxList c F as
  | pow b e => max (trueMax c F b) (trueMax c F e)
  | fn _ a => trueMax c F a
  | idx b _ => trueMax c F b
  | op1 _ a => trueMax c F a
  | op2 _ a b => max (trueMax c F a) (trueMax c F b)
  | mat _ _ es => trueMaxList c F es
  | tup as => trueMaxList c F as
  | other _ as => trueMaxList c F as
  | _ => 0
def trueMaxList (c : Coord) (F : Option E) : List E → Nat
  | [] => 0
  | a :: as => max (trueMax c F a) (trueMaxList c F as)
end

/-! ### suprema -/

def supNat (l : List Nat) : Nat := l.foldl max 0

theorem foldl_max_init (l : List Nat) (m : Nat) : l.foldl max m = max m (l.foldl max 0) := by
  rw [← List.foldl_assoc (op := max), Nat.max_zero]

theorem supNat_nil : supNat [] = 0 := rfl

theorem supNat_cons (a : Nat) (l : List Nat) : supNat (a :: l) = max a (supNat l) := by
  rw [supNat, List.foldl_cons, Nat.zero_max, foldl_max_init, supNat]

theorem supNat_append (l1 l2 : List Nat) : supNat (l1 ++ l2) = max (supNat l1) (supNat l2) := by
  rw [supNat, List.foldl_append, foldl_max_init, supNat, supNat]

theorem le_supNat {l : List Nat} {x : Nat} (h : x ∈ l) : x ≤ supNat l := by
  induction l with
  | nil => cases h
  | cons a l ih =>
    rw [supNat_cons]
    rcases List.mem_cons.mp h with rfl | h
    · omega
    · have := ih h; omega

theorem supNat_le {l : List Nat} {b : Nat} (h : ∀ x ∈ l, x ≤ b) : supNat l ≤ b := by
  induction l with
  | nil => simp [supNat_nil]
  | cons a l ih =>
    rw [supNat_cons]
    have := h a (by simp)
    have := ih (fun x hx => h x (by simp [hx]))
    omega

def comp3 (k : Nat) (t : Nat × Nat × Nat) : Nat :=
  match k with
  | 0 => t.1
  | 1 => t.2.1
  | _ => t.2.2

theorem comp3_max3 (k : Nat) (a b : Nat × Nat × Nat) : comp3 k (max3 a b) = max (comp3 k a) (comp3 k b) := by
  unfold comp3 max3
  split <;> rfl

theorem comp3_foldl (k : Nat) (l : List (Nat × Nat × Nat)) (z : Nat × Nat × Nat) :
    comp3 k (l.foldl max3 z) = (l.map (comp3 k)).foldl max (comp3 k z) := by
  induction l generalizing z with
  | nil => rfl
  | cons a l ih => simp only [List.foldl_cons, List.map_cons, ih, comp3_max3]

theorem comp3_indexOf (lg : Bool) (k : Nat) (i : E) :
    comp3 k (indexOf lg i) = countPd (Coord.ofIdx lg k) i := by
  unfold comp3 indexOf
  match k with
  | 0 => rfl
  | 1 => rfl
  | k + 2 => simp [Coord.ofIdx]

/-! ### chains -/

theorem stripAll_not_pd (e : E) : ∀ c a, stripAll e ≠ pd c a := by
  induction e using E.chain_induction with
  | pd c a ih => exact ih
  | atom e he =>
    cases e with
    | pd c a => exact absurd rfl (he c a)
    | _ => exact he

theorem stripKind_eq_stripAll (lg : Bool) (e : E) (h : ∀ c a, stripKind lg e ≠ pd c a) :
    stripAll e = stripKind lg e := by
  induction e using E.chain_induction with
  | pd c a ih =>
    rw [stripKind] at h ⊢
    split at h
    · rename_i hc
      rw [if_pos hc]
      exact ih h
    · exact absurd rfl (h c a)
  | atom e he =>
    cases e with
    | pd c a => exact absurd rfl (he c a)
    | _ => rfl

theorem isFunAtom_not_pd {f : E} (h : isFunAtom f = true) : ∀ c a, f ≠ pd c a := by
  rintro c a rfl
  cases h

theorem countPd_funAtom (c : Coord) (f : E) (h : isFunAtom f = true) : countPd c f = 0 := by
  cases f with
  | sf n k => rfl
  | idx b i =>
    cases b with
    | vf n k => rfl
    | _ => cases h
  | _ => cases h

theorem countPd_chain (c : Coord) (e : E) (h : isFunAtom (stripAll e) = true) :
    countPd c e = spineCount c e := by
  induction e using E.chain_induction with
  | pd c' a ih => rw [countPd, spineCount, ih h]
  | atom e he =>
    cases e with
    | pd c a => exact absurd rfl (he c a)
    | _ => exact countPd_funAtom c _ h

/-! ### equality of atoms -/

theorem sameAtom_eq {x f : E} (hf : isFunAtom f = true) (h : sameAtom x f = true) : x = f := by
  cases f with
  | sf n k =>
    cases x with
    | sf n' k' =>
      simp only [sameAtom, Bool.and_eq_true, beq_iff_eq] at h
      rw [h.1, h.2]
    | idx b' i' => cases b' <;> cases h
    | _ => cases h
  | idx b i =>
    cases b with
    | vf n k =>
      cases x with
      | idx b' i' =>
        cases b' with
        | vf n' k' =>
          simp only [sameAtom, Bool.and_eq_true, beq_iff_eq] at h
          rw [h.1.1, h.1.2, h.2]
        | _ => cases h
      | _ => cases h
    | _ => cases hf
  | _ => cases hf

theorem sameAtom_refl {f : E} (hf : isFunAtom f = true) : sameAtom f f = true := by
  cases f with
  | sf n k => simp [sameAtom]
  | idx b i =>
    cases b with
    | vf n k => simp [sameAtom]
    | _ => cases hf
  | _ => cases hf

/-! ### traversals -/

theorem findPdList_eq (as : List E) : findPdList as = as.flatMap findPd := by
  induction as with
  | nil => rfl
  | cons a as ih => simp [findPdList, ih]

theorem trueMaxList_eq (c : Coord) (F : Option E) (as : List E) :
    trueMaxList c F as = supNat (as.map (trueMax c F)) := by
  induction as with
  | nil => rfl
  | cons a as ih => simp [trueMaxList, supNat_cons, ih]

/-- the full traversal of `trueMax` visits exactly the chains returned by `findPd` -/
theorem trueMax_eq_sup (c : Coord) (F : Option E) (e : E) :
    trueMax c F e = supNat ((findPd e).map (chainVal c F)) := by
  induction e using E.rec
    (motive_2 := fun as => trueMaxList c F as = supNat ((findPdList as).map (chainVal c F))) with
  | pd c' a _ => exact (Nat.zero_max _).symm
  | add as ih | mul as ih | tup as ih | mat r c' as ih | other t as ih | fn f a ih | idx a i ih
  | op1 o a ih => exact ih
  | pow a b iha ihb | op2 o a b iha ihb =>
    rw [trueMax, findPd, List.map_append, supNat_append, iha, ihb]
  | nil => rfl
  | cons a as iha ihas => rw [trueMaxList, findPdList, List.map_append, supNat_append, iha, ihas]
  | _ => rfl

theorem canon_chains (e : E) (h : canon e = true) : ∀ i ∈ findPd e, isFunAtom (stripAll i) = true := by
  induction e using E.rec
    (motive_2 := fun as => canonList as = true → ∀ i ∈ findPdList as, isFunAtom (stripAll i) = true) with
  | pd c a _ =>
    intro i hi
    rw [List.mem_singleton.mp hi]
    exact h
  | add as ih | mul as ih | tup as ih | mat r c as ih | other t as ih | fn f a ih | idx a i ih
  | op1 o a ih => exact ih h
  | pow a b iha ihb | op2 o a b iha ihb =>
    simp only [canon, Bool.and_eq_true] at h
    intro i hi
    rcases List.mem_append.mp hi with hi | hi
    · exact iha h.1 i hi
    · exact ihb h.2 i hi
  | nil => rename_i h i hi; cases hi
  | cons a as iha ihas =>
    rename_i h i hi
    simp only [canonList, Bool.and_eq_true] at h
    rcases List.mem_append.mp hi with hi | hi
    · exact iha h.1 i hi
    · exact ihas h.2 i hi
  | _ => intro i hi; cases hi

theorem funAtoms_stripAll (e : E) (h : isFunAtom (stripAll e) = true) : stripAll e ∈ funAtoms e := by
  induction e using E.chain_induction with
  | pd c a ih => exact ih h
  | atom e he =>
    cases e with
    | sf n k => exact List.mem_singleton_self _
    | idx b i => exact List.mem_cons_self
    | pd c a => exact absurd rfl (he c a)
    | _ => cases h

theorem chain_atom_mem (e : E) : ∀ i ∈ findPd e, isFunAtom (stripAll i) = true → stripAll i ∈ funAtoms e := by
  induction e using E.rec
    (motive_2 := fun as => ∀ i ∈ findPdList as, isFunAtom (stripAll i) = true → stripAll i ∈ funAtomsList as) with
  | pd c a _ =>
    intro i hi hf
    rw [List.mem_singleton.mp hi] at hf ⊢
    exact funAtoms_stripAll _ hf
  | add as ih | mul as ih | tup as ih | mat r c as ih | other t as ih | fn f a ih
  | op1 o a ih => exact ih
  | idx b i ih => exact fun j hj hf => List.mem_cons_of_mem _ (ih j hj hf)
  | pow a b iha ihb | op2 o a b iha ihb =>
    intro i hi hf
    rw [funAtoms, List.mem_append]
    rcases List.mem_append.mp hi with hi | hi
    · exact Or.inl (iha i hi hf)
    · exact Or.inr (ihb i hi hf)
  | nil => rename_i i hi hf; cases hi
  | cons a as iha ihas =>
    rename_i i hi hf
    rw [funAtomsList, List.mem_append]
    rcases List.mem_append.mp hi with hi | hi
    · exact Or.inl (iha i hi hf)
    · exact Or.inr (ihas i hi hf)
  | _ => intro i hi; cases hi

/-! ### `sortPd` is a rearrangement of `findPd` -/

theorem mem_insertDesc (k y : Nat) (l : List Nat) : y ∈ insertDesc k l ↔ y = k ∨ y ∈ l := by
  induction l with
  | nil => simp [insertDesc]
  | cons x xs ih =>
    unfold insertDesc
    split
    · rename_i h
      have : k = x := by simpa using h
      subst this
      simp
    · split
      · simp
      · simp only [List.mem_cons, ih]
        constructor
        · rintro (h | h | h)
          · exact Or.inr (Or.inl h)
          · exact Or.inl h
          · exact Or.inr (Or.inr h)
        · rintro (h | h | h)
          · exact Or.inr (Or.inl h)
          · exact Or.inl h
          · exact Or.inr (Or.inr h)

theorem mem_foldl_insertDesc (ks acc : List Nat) (y : Nat) :
    y ∈ ks.foldl (fun acc k => insertDesc k acc) acc ↔ y ∈ ks ∨ y ∈ acc := by
  induction ks generalizing acc with
  | nil => simp
  | cons k ks ih =>
    simp only [List.foldl_cons, ih, mem_insertDesc, List.mem_cons]
    constructor
    · rintro (h | h | h)
      · exact Or.inl (Or.inr h)
      · exact Or.inl (Or.inl h)
      · exact Or.inr h
    · rintro ((h | h) | h)
      · exact Or.inr (Or.inl h)
      · exact Or.inl h
      · exact Or.inr (Or.inr h)

theorem mem_sortPd (e x : E) : x ∈ sortPd e ↔ x ∈ findPd e := by
  unfold sortPd
  simp only [List.mem_flatMap, List.mem_filter, beq_iff_eq]
  constructor
  · rintro ⟨k, _, hx, _⟩; exact hx
  · intro hx
    refine ⟨numD x, ?_, hx, rfl⟩
    rw [mem_foldl_insertDesc]
    exact Or.inl (List.mem_map.mpr ⟨x, hx, rfl⟩)

theorem maxOrders_comp (lg : Bool) (e : E) (F : Option E) (k : Nat) :
    comp3 k (maxOrders lg e F) = supNat (((match F with
      | none => (funAtoms e).flatMap (indexAtom lg e)
      | some f => indexAtom lg e f)).map (comp3 k)) := by
  unfold maxOrders supNat
  simp only
  rw [comp3_foldl]
  cases k with
  | zero => rfl
  | succ k => cases k <;> rfl


end Sympde.Atoms

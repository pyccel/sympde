/-
  C03: the model's logical differentiator `ldiff` denotes the derivative, and keeps the two invariants under which
  it does — every power has an integer literal exponent (`IntPow`), every inverted base is invertible (`NonDeg`);
  what the determinant, the adjugate and the inverse of the symbolic Jacobian denote.
-/
import SympdeModel.Model.Pullback
import SympdeModel.Lemmas.Frac

namespace Sympde
namespace PB
open E PD
open DRing (sumN)

variable {K : Type} [CommRing K] [Algebra ℚ K]

theorem intLit_eq_some {e : E} {n : Int} (h : intLit e = some n) : e = num n 1 := by
  cases e <;> simp [intLit] at h
  case num p q =>
    split at h
    · rename_i heq
      injection heq with h1 h2
      injection h with h
      subst h1; subst h2; subst h; rfl
    · cases h

theorem powSem_none (S : DRing K) (b ev : K) (e : E) (h : intLit e = none) : powSem S b e ev = S.rpow b ev := by
  unfold powSem; rw [h]

theorem den_neg (S : DRing K) (a : E) (i j : Nat) : den S (neg a) i j = - den S a i j := by
  simp [neg, den, denProd]

theorem den_sub (S : DRing K) (a b : E) (i j : Nat) : den S (sub a b) i j = den S a i j - den S b i j := by
  simp only [sub, den, denSum, den_neg]; ring

theorem den_mul3 (S : DRing K) (a b c : E) (i j : Nat) :
    den S (mul [a, b, c]) i j = den S a i j * den S b i j * den S c i j := by
  simp [den, denProd]; ring

theorem den_add3 (S : DRing K) (a b c : E) (i j : Nat) :
    den S (add [a, b, c]) i j = den S a i j + den S b i j + den S c i j := by
  simp [den, denSum]; ring

theorem den_idx_vf (S : DRing K) (s : String) (k : Kind) (l i j : Nat) :
    den S (idx (vf s k) l) i j = S.vf s l := by simp [den]

theorem den_pd (S : DRing K) (c : Coord) (a : E) (i j : Nat) : den S (pd c a) i j = S.D c (den S a i j) := by
  simp [den]

theorem den_sf (S : DRing K) (s : String) (k : Kind) (i j : Nat) : den S (sf s k) i j = S.sf s := by simp [den]

theorem den_sum3 (S : DRing K) (d : Nat) (hd : d ≤ 3) (f : Nat → E) (i j : Nat) :
    den S (sum3 d f) i j = sumN d (fun l => den S (f l) i j) := by
  match d, hd with
  | 0, _ => simp [sum3, sumN, den_zero]
  | 1, _ => simp [sum3, sumN]
  | 2, _ => simp [sum3, sumN, den_add2]
  | 3, _ => simp [sum3, sumN, den_add3]

/-! ### every power has an integer literal exponent -/

mutual
def IntPow : E → Bool
  | pow b e => (intLit e).isSome && IntPow b
  | add as => IntPowList as
  | mul as => IntPowList as
  | fn _ a => IntPow a
  | pd _ a => IntPow a
  | idx b _ => IntPow b
  | mat _ _ es => IntPowList es
  | tup as => IntPowList as
  | op1 _ a => IntPow a
  | op2 _ a b => IntPow a && IntPow b
  | other _ as => IntPowList as
  | _ => true
def IntPowList : List E → Bool
  | [] => true
  | a :: as => IntPow a && IntPowList as
end

theorem NonDeg_zero (S : DRing K) : NonDeg S zero := by simp [zero, NonDeg]
theorem NonDeg_one (S : DRing K) : NonDeg S one := by simp [one, NonDeg]

theorem IntPow_sum3 (d : Nat) (f : Nat → E) (h : ∀ l, IntPow (f l) = true) : IntPow (sum3 d f) = true := by
  unfold sum3
  split <;> simp [IntPow, IntPowList, h, zero]

theorem NonDeg_sum3 (S : DRing K) (d : Nat) (f : Nat → E) (h : ∀ l, NonDeg S (f l)) : NonDeg S (sum3 d f) := by
  unfold sum3
  split <;> simp [NonDeg, NonDegList, h, zero]

theorem IntPow_neg (a : E) (h : IntPow a = true) : IntPow (neg a) = true := by
  simp [neg, IntPow, IntPowList, h]
theorem IntPow_sub (a b : E) (ha : IntPow a = true) (hb : IntPow b = true) : IntPow (sub a b) = true := by
  simp [sub, IntPow, IntPowList, ha, IntPow_neg b hb]
theorem IntPow_mul2 (a b : E) (ha : IntPow a = true) (hb : IntPow b = true) : IntPow (mul [a, b]) = true := by
  simp [IntPow, IntPowList, ha, hb]
theorem NonDeg_neg (S : DRing K) (a : E) (h : NonDeg S a) : NonDeg S (neg a) := by
  simp [neg, NonDeg, NonDegList, h]
theorem NonDeg_sub (S : DRing K) (a b : E) (ha : NonDeg S a) (hb : NonDeg S b) : NonDeg S (sub a b) := by
  simp [sub, NonDeg, NonDegList, ha, NonDeg_neg S b hb]
theorem NonDeg_mul2 (S : DRing K) (a b : E) (ha : NonDeg S a) (hb : NonDeg S b) : NonDeg S (mul [a, b]) := by
  simp [NonDeg, NonDegList, ha, hb]

theorem knownFnB_fnDeriv (S : DRing K) (f : String) (a : E) (hf : knownFnB f = true) (hi : IntPow a = true)
    (hn : NonDeg S a) : knownFn f = true ∧ IntPow (fnDeriv f a) = true ∧ NonDeg S (fnDeriv f a) := by
  unfold knownFnB at hf
  simp only [Bool.or_eq_true, beq_iff_eq] at hf
  rcases hf with ((((rfl | rfl) | rfl) | rfl) | rfl) | rfl <;>
    simp [knownFn, fnDeriv, IntPow, IntPowList, NonDeg, NonDegList, hi, hn, one, intLit]

theorem ldiffPow_int (b db de : E) (n : Int) :
    ldiffPow b (num n 1) db de = if n = 0 then zero else mul [num n 1, pow b (num (n - 1) 1), db] := by
  simp only [ldiffPow, intLit_num, Option.some.injEq, isRatLit, bne_self_eq_false, Bool.false_eq_true, if_false,
    powRule]

theorem IntPow_ldiffPow (b db de : E) (n : Int) (hb : IntPow b = true) (hdb : IntPow db = true) :
    IntPow (ldiffPow b (num n 1) db de) = true := by
  rw [ldiffPow_int]
  split
  · rfl
  · simp only [IntPow, IntPowList, intLit_num, Option.isSome_some, hb, hdb, Bool.and_self]

theorem NonDeg_ldiffPow (S : DRing K) (b db de : E) (n : Int) (h : NonDeg S (pow b (num n 1)))
    (hdb : NonDeg S db) : NonDeg S (ldiffPow b (num n 1) db de) := by
  rw [ldiffPow_int]
  split
  · exact NonDeg_zero S
  · rename_i hz
    simp only [NonDeg, intLit_num] at h
    simp only [NonDeg, NonDegList, intLit_num, and_true, true_and]
    refine ⟨⟨?_, h.2.1⟩, hdb⟩
    cases n with
    | ofNat m =>
      cases m with
      | zero => exact absurd rfl hz
      | succ m => rw [show Int.ofNat (m + 1) - 1 = Int.ofNat m from Int.add_sub_cancel (Int.ofNat m) 1]; trivial
    | negSucc k => rw [show Int.negSucc k - 1 = Int.negSucc (k + 1) from rfl]; exact h.1

theorem ldiffPow_sound (S : DRing K) (c : Coord) (b e db de : E) (i j : Nat)
    (hb : den S db i j = S.D c (den S b i j)) (he : den S de i j = S.D c (den S e i j))
    (hnd : NonDeg S (pow b e)) :
    den S (ldiffPow b e db de) i j = S.D c (den S (pow b e) i j) := by
  unfold ldiffPow
  split
  · rename_i hz
    have := intLit_eq_some hz
    subst this
    have h1 : den S (pow b (num 0 1)) i j = 1 := by simp [den, powSem, intLit]
    rw [h1, S.D_one, den_zero]
  · split
    · rename_i hz hr
      cases e <;> simp [isRatLit] at hr
      rename_i p q
      have hl : intLit (num p q) = none := by
        simp only [intLit]
        split
        · rename_i heq; injection heq with h1 h2; exact absurd h2 hr
        · rfl
      have hD : S.D c (den S (num p q) i j) = 0 := by simp [den, S.D_rat]
      have e1 : den S (pow b (num p q)) i j = S.rpow (den S b i j) (den S (num p q) i j) := by
        simp only [den]; exact powSem_none S _ _ _ hl
      have e2 : den S (mul [num p q, db, pow b (num (-1) 1), pow b (num p q)]) i j
          = den S (num p q) i j * (den S db i j * (S.inv (den S b i j) * (S.rpow (den S b i j) (den S (num p q) i j) * 1))) := by
        simp only [den, denProd]
        rw [powSem_neg_one, powSem_none S _ _ _ hl]
      rw [e1, e2, S.D_rpow, hD, hb]
      ring
    apply powRule_sound S c b e db de i j hb he
    simp only [NonDeg] at hnd
    cases hl : intLit e with
    | none => trivial
    | some n =>
      cases n with
      | ofNat m => trivial
      | negSucc m =>
        have := hnd.1
        simp only [hl] at this
        exact this i j

theorem ldiff_all (S : DRing K) (T : FnTable S) (m : String) (c : Coord) (e : E) :
    IntPow e = true → NonDeg S e → ∀ r, ldiff m c e = .ok r →
      IntPow r = true ∧ NonDeg S r ∧ ∀ i j, den S r i j = S.D c (den S e i j) := by
  induction e using E.rec
    (motive_2 := fun as => IntPowList as = true → NonDegList S as →
      (∀ rs, ldiffList m c as = .ok rs →
        IntPowList rs = true ∧ NonDegList S rs ∧ ∀ i j, denSum S rs i j = S.D c (denSum S as i j)) ∧
      (∀ r, ldiffProd m c as = .ok r →
        IntPow r = true ∧ NonDeg S r ∧ ∀ i j, den S r i j = S.D c (denProd S as i j))) with
  | num p q =>
    intro _ _ r h
    simp only [ldiff] at h; cases h
    exact ⟨rfl, NonDeg_zero S, fun i j => by rw [den_zero, den_num, S.D_rat]⟩
  | cst s =>
    intro _ _ r h
    simp only [ldiff] at h; cases h
    exact ⟨rfl, NonDeg_zero S, fun i j => by simp only [den_zero, den, S.D_cst]⟩
  | sym s =>
    intro _ _ r h
    simp only [ldiff] at h; cases h
    simp only [den, S.D_sym]
    split
    · exact ⟨rfl, NonDeg_one S, fun i j => den_one S i j⟩
    · exact ⟨rfl, NonDeg_zero S, fun i j => den_zero S i j⟩
  | sf s k =>
    intro _ _ r h
    simp only [ldiff] at h; cases h
    exact ⟨rfl, trivial, fun i j => rfl⟩
  | vf s k => intro _ _ r h; cases h
  | idx b k _ =>
    intro hi hn r h
    simp only [ldiff] at h; cases h
    exact ⟨hi, hn, fun i j => rfl⟩
  | pd c' a _ =>
    intro hi hn r h
    simp only [ldiff] at h; cases h
    exact ⟨hi, hn, fun i j => rfl⟩
  | add as ih =>
    intro hi hn r h
    simp only [ldiff] at h
    obtain ⟨rs, hrs, h⟩ := bind_ok h
    cases h
    exact (ih hi hn).1 rs hrs
  | mul as ih =>
    intro hi hn r h
    exact (ih hi hn).2 r h
  | pow b e ihb ihe =>
    intro hi hn r h
    simp only [IntPow, Bool.and_eq_true] at hi
    obtain ⟨n, hl⟩ := Option.isSome_iff_exists.mp hi.1
    obtain rfl := intLit_eq_some hl
    simp only [ldiff] at h
    obtain ⟨db, hb, h⟩ := bind_ok h
    obtain ⟨de, he, h⟩ := bind_ok h
    cases h
    obtain ⟨h1, h2, h3⟩ := ihb hi.2 hn.2.1 db hb
    obtain ⟨_, _, g3⟩ := ihe rfl hn.2.2 de he
    exact ⟨IntPow_ldiffPow b db de n hi.2 h1, NonDeg_ldiffPow S b db de n hn h2,
      fun i j => ldiffPow_sound S c b _ db de i j (h3 i j) (g3 i j) hn⟩
  | fn f a iha =>
    intro hi hn r h
    simp only [ldiff] at h
    split at h
    · cases h
    · rename_i hc
      simp only [Bool.or_eq_true, Bool.not_eq_true', not_or, Bool.not_eq_true, Bool.not_eq_false] at hc
      obtain ⟨da, ha, h⟩ := bind_ok h
      cases h
      obtain ⟨h1, h2, h3⟩ := iha hi hn da ha
      obtain ⟨k1, k2, k3⟩ := knownFnB_fnDeriv S f a hc.2 hi hn
      refine ⟨IntPow_mul2 _ _ k2 h1, NonDeg_mul2 S _ _ k3 h2, fun i j => ?_⟩
      rw [den_mul2, h3, den_fnDeriv S T f a i j k1]
      exact (S.D_fn c f _).symm
  | op1 o a _ => intro _ _ r h; cases h
  | op2 o a b _ _ => intro _ _ r h; cases h
  | mat r c es _ => intro _ _ r h; cases h
  | tup as _ => intro _ _ r h; cases h
  | normal k => intro _ _ r h; cases h
  | other t as _ => intro _ _ r h; cases h
  | nil =>
    refine ⟨fun rs h => ?_, fun r h => ?_⟩
    · simp only [ldiffList] at h; cases h
      exact ⟨rfl, trivial, fun i j => (S.D_zero c).symm⟩
    · simp only [ldiffProd] at h; cases h
      exact ⟨rfl, NonDeg_zero S, fun i j => by rw [den_zero]; exact (S.D_one c).symm⟩
  | cons x xs ihx ihxs =>
    rename_i hi hn
    simp only [IntPowList, Bool.and_eq_true] at hi
    obtain ⟨ihl, ihp⟩ := ihxs hi.2 hn.2
    refine ⟨fun rs h => ?_, fun r h => ?_⟩
    · simp only [ldiffList] at h
      obtain ⟨rx, hx, h⟩ := bind_ok h
      obtain ⟨rxs, hxs, h⟩ := bind_ok h
      cases h
      obtain ⟨h1, h2, h3⟩ := ihx hi.1 hn.1 rx hx
      obtain ⟨g1, g2, g3⟩ := ihl rxs hxs
      exact ⟨by simp only [IntPowList, h1, g1, Bool.and_self], ⟨h2, g2⟩,
        fun i j => by simp only [denSum, S.D_add, h3, g3]⟩
    · simp only [ldiffProd] at h
      obtain ⟨dx, hx, h⟩ := bind_ok h
      obtain ⟨rp, hp, h⟩ := bind_ok h
      cases h
      obtain ⟨h1, h2, h3⟩ := ihx hi.1 hn.1 dx hx
      obtain ⟨g1, g2, g3⟩ := ihp rp hp
      refine ⟨by simp only [IntPow, IntPowList, h1, g1, hi.1, hi.2, Bool.and_self], ?_, fun i j => ?_⟩
      · simp only [NonDeg, NonDegList, and_true]
        exact ⟨⟨h2, hn.2⟩, hn.1, g2⟩
      · simp only [den, denSum, denProd, h3, g3, S.D_mul]
        ring

/-! ### determinant and adjugate of the symbolic Jacobian -/

theorem IntPow_detJ (j : Jac) (h : ∀ i l, IntPow (j.J i l) = true) : IntPow (detJ j) = true := by
  unfold detJ
  split <;> simp [IntPow, IntPowList, sub, neg, h]

theorem NonDeg_detJ (S : DRing K) (j : Jac) (h : ∀ i l, NonDeg S (j.J i l)) : NonDeg S (detJ j) := by
  unfold detJ
  split <;> simp [NonDeg, NonDegList, sub, neg, h]

theorem IntPow_adjJ (j : Jac) (h : ∀ i l, IntPow (j.J i l) = true) (i k : Nat) : IntPow (adjJ j i k) = true := by
  unfold adjJ
  split
  · rfl
  · split <;> simp [IntPow, IntPowList, neg, h]
  · simp [IntPow, IntPowList, sub, neg, h]

theorem NonDeg_adjJ (S : DRing K) (j : Jac) (h : ∀ i l, NonDeg S (j.J i l)) (i k : Nat) : NonDeg S (adjJ j i k) := by
  unfold adjJ
  split
  · exact NonDeg_one S
  · split <;> simp [NonDeg, NonDegList, neg, h]
  · simp [NonDeg, NonDegList, sub, neg, h]

theorem den_invDet (S : DRing K) (j : Jac) (i k : Nat) :
    den S (invDet j) i k = S.inv (den S (detJ j) i k) := by
  simp only [invDet, den]
  exact powSem_neg_one S _ _

theorem den_invJ (S : DRing K) (j : Jac) (i k a b : Nat) :
    den S (invJ j i k) a b = den S (adjJ j i k) a b * S.inv (den S (detJ j) a b) := by
  simp only [invJ, den_mul2, den_invDet]

theorem den_detJ2 (S : DRing K) (j : Jac) (hd : j.d = 2) (x y : Nat) :
    den S (detJ j) x y = den S (j.J 0 0) x y * den S (j.J 1 1) x y - den S (j.J 0 1) x y * den S (j.J 1 0) x y := by
  simp only [detJ, hd, den_sub, den_mul2]

/-- the entry `(i, k)` of the 3×3 adjugate is component `i` of the cross product of the rows
    `k+1`, `k+2` (indices mod 3) of the Jacobian -/
theorem den_adjJ3 (S : DRing K) (j : Jac) (hd : j.d = 3) (i k x y : Nat) :
    den S (adjJ j i k) x y
      = den S (j.J ((k + 1) % 3) ((i + 1) % 3)) x y * den S (j.J ((k + 2) % 3) ((i + 2) % 3)) x y
        - den S (j.J ((k + 1) % 3) ((i + 2) % 3)) x y * den S (j.J ((k + 2) % 3) ((i + 1) % 3)) x y := by
  simp only [adjJ, hd, den_sub, den_mul2]

theorem den_detJ3 (S : DRing K) (j : Jac) (hd : j.d = 3) (x y : Nat) :
    den S (detJ j) x y
      = den S (j.J 0 0) x y * (den S (j.J 1 1) x y * den S (j.J 2 2) x y - den S (j.J 1 2) x y * den S (j.J 2 1) x y)
        - den S (j.J 0 1) x y * (den S (j.J 1 0) x y * den S (j.J 2 2) x y - den S (j.J 1 2) x y * den S (j.J 2 0) x y)
        + den S (j.J 0 2) x y * (den S (j.J 1 0) x y * den S (j.J 2 1) x y - den S (j.J 1 1) x y * den S (j.J 2 0) x y) := by
  simp only [detJ, hd, den_add3, den_mul2, den_sub, den_neg]
  ring

/-- component `i` of `(J/det) curl̂ û` -/
theorem den_curlRule3 (S : DRing K) (j : Jac) (hd : j.d = 3) (s : String) (i x y : Nat) :
    den S (curlRule j s i) x y
      = (den S (j.J i 0) x y * (S.D .x2 (S.vf s 2) - S.D .x3 (S.vf s 1))
        + den S (j.J i 1) x y * (S.D .x3 (S.vf s 0) - S.D .x1 (S.vf s 2))
        + den S (j.J i 2) x y * (S.D .x1 (S.vf s 1) - S.D .x2 (S.vf s 0))) * S.inv (den S (detJ j) x y) := by
  simp only [curlRule, lcurl3, hd, sum3, den_mul2, den_add3, den_sub, den_pd, den_idx_vf, den_invDet, lc,
    Coord.ofIdx, if_true, Nat.reduceAdd, Nat.reduceMod]

theorem cyc3_idx (i : Nat) (hi : i < 3) :
    ((i + 1) % 3 + 1) % 3 = (i + 2) % 3 ∧ ((i + 1) % 3 + 2) % 3 = i
      ∧ ((i + 2) % 3 + 1) % 3 = i ∧ ((i + 2) % 3 + 2) % 3 = (i + 1) % 3 := by
  match i, hi with
  | 0, _ => exact ⟨rfl, rfl, rfl, rfl⟩
  | 1, _ => exact ⟨rfl, rfl, rfl, rfl⟩
  | 2, _ => exact ⟨rfl, rfl, rfl, rfl⟩

omit [Algebra ℚ K] in
theorem sum_cyc3 (f : Nat → K) (i : Nat) (hi : i < 3) :
    f i + f ((i + 1) % 3) + f ((i + 2) % 3) = f 0 + f 1 + f 2 := by
  match i, hi with
  | 0, _ => rfl
  | 1, _ => show f 1 + f 2 + f 0 = _; ring
  | 2, _ => show f 2 + f 0 + f 1 = _; ring

end PB
end Sympde

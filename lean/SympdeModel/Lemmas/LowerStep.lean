/-
  The operator steps.  One evaluation of the generated tables per arity (`table1`, `table2`) shows
  that every well-typed (dimension, logical, operator, argument types, argument signatures)
  combination is covered by the index; `leaf1_core`, `leaf2_core` derive from it, for all
  combinations at once, what the class the dispatcher selects returns; `op1_step`, `op2_step`: applied
  to lowered values over a graded class of scalar forms whose grade exceeds that of the result by
  the order of the operator, it returns a lowered value with the classical components.
-/
import SympdeModel.Lemmas.LowerLeaf
namespace Sympde.Lower
open E Gen

variable {K : Type} [CommRing K] [Algebra ℚ K]

/-- the lowered form `t` of the expression `a` of type `τ` is a value `V` of that type and denotes the
    classical value of `a` at the components of the type -/
def Good (S : DRing K) (d : Nat) (lg : Bool) (V : Ty → E → Prop) (τ : Ty) (a t : E) : Prop :=
  V τ t ∧ ∀ i j, InR d τ i j → den S t i j = denG S d lg a i j

/-! ### unary operators -/

/-- the table facts for one unary operator applied to an argument of type `τa` and signature `c` -/
def row1 (d : Nat) (lg : Bool) (o : Op1) (τa : Ty) (c : Char) : Bool :=
  match ty1 d o τa, op1Class o with
  | some τ, some cn =>
      covers d lg τ (ord1 o) ((if lg then "Logical" else "") ++ cn ++ "_" ++ toString d ++ "d") [c]
        (op1 o (ph 0 c d)) && (d == 1 || rank d (ph 0 c d) == rk τa)
  | _, _ => true

/-- every combination the dispatcher can meet passes the test (one evaluation of the two tables) -/
theorem table1 : ∀ d ∈ [1, 2, 3], ∀ lg ∈ [false, true],
    ∀ o ∈ [Op1.grad, .curl, .rot, .div, .laplace, .hessian, .jump, .avg, .minus, .plus, .dn,
      .transpose, .trace, .det, .inverse],
    ∀ τa ∈ [Ty.s, .v, .m], ∀ c ∈ sigsOf d τa, row1 d lg o τa c = true := by
  decide +kernel

theorem leaf1_core (S : DRing K) (d : Nat) (hd : d = 1 ∨ d = 2 ∨ d = 3) (lg : Bool) (o : Op1)
    (τa τ : Ty) (hty : ty1 d o τa = some τ) (cn : String) (hcn : op1Class o = some cn) (a a' : E)
    (hf : ArgForm d τa a') (hra : rank d a = rk τa)
    (IH : ∀ i j, InR d τa i j → den S a' i j = denG S d lg a i j) :
    ∃ F, applyLeaf d ((if lg then "Logical" else "") ++ cn ++ "_" ++ toString d ++ "d") [a']
          = inst d (sigmaOf d [a']) F ∧
      shapeOK d τ F = true ∧ pdDepth F ≤ ord1 o ∧
      ∀ i j, InR d τ i j → den (bindS S (sigmaOf d [a'])) F i j = denG S d lg (op1 o a) i j := by
  obtain ⟨c, hcs, hc⟩ := sigOf_argForm d τa a' hf
  have hrow := table1 d (by rcases hd with rfl | rfl | rfl <;> decide) lg (by cases lg <;> decide)
    o (by cases o <;> decide) τa (by cases τa <;> decide) c hcs
  simp only [row1, hty, hcn, Bool.and_eq_true, Bool.or_eq_true, beq_iff_eq] at hrow
  obtain ⟨hcov, hrk⟩ := hrow
  obtain ⟨F, hF⟩ := covers_spec _ _ _ _ _ _ _ hcov
  refine ⟨F, applyLeaf_formula d _ [a'] [c] F hF.known (by simp [hc]) hF.look, hF.shape, hF.depth,
    fun i j hij => ?_⟩
  have hb := (InR_iff d τ i j).mp hij
  have hreads := ph_reads S d hd lg 0 τa a' c hf hc (sigmaOf d [a']) (fun p hp =>
    findBind_of_mem _ (by
      rw [sigmaOf_one, bindArg_keys d 0 τa a' c hf hc]
      simpa [List.zipIdx] using hF.keys) p (by rw [sigmaOf_one]; exact hp))
  have hcongr := op1sem_congr S d (by rcases hd with rfl | rfl | rfl <;> decide) lg o τa τ hty
    (denG (bindS S (sigmaOf d [a'])) d lg (ph 0 c d)) (denG S d lg a)
    (fun i j h => (hreads i j h).trans (IH i j h)) i j hij
  rw [hF.sound (bindS S _) i j hb.1 hb.2, denG_op1, denG_op1, op1sem_bindS, hra]
  rcases hrk with h1 | hrP
  · subst h1
    obtain ⟨rfl, rfl⟩ := (InR_one τ i j).mp hij
    rw [op1sem_rank_1d S lg o τa τ hty (rank 1 (ph 0 c 1)) (rk τa)]
    exact hcongr
  · rw [hrP]; exact hcongr

theorem op1_step {S : DRing K} {d : Nat} {P : Nat → E → Prop} {ext total : Prop}
    (W : Forms S d P ext total) (hd : d = 1 ∨ d = 2 ∨ d = 3) (lg : Bool) (o : Op1) (τa τ : Ty)
    (hty : ty1 d o τa = some τ) (cn : String) (hcn : op1Class o = some cn) (k : Nat) (a a' : E)
    (hra : rank d a = rk τa) (ga : Good S d lg (Shaped (P (k + ord1 o)) d) τa a a') :
    Res total (Good S d lg (Shaped (P k) d) τ (op1 o a))
      (applyLeaf d ((if lg then "Logical" else "") ++ cn ++ "_" ++ toString d ++ "d") [a']) := by
  have hP := fun t (h : P (k + ord1 o) t) => LX_scalarForm t (W.lx h)
  obtain ⟨F, happ, hF, hdep, hden⟩ :=
    leaf1_core S d hd lg o τa τ hty cn hcn a a' (ga.1.argForm hP) hra ga.2
  rw [happ]
  refine (inst_shape W _ k τ F hF fun p hp => ?_).mono fun t ht =>
    ⟨ht.1, fun i j hij => (ht.2 i j).trans (hden i j hij)⟩
  rw [sigmaOf_one] at hp
  exact W.mono (by omega) (ga.1.bindArg hP (W.ls rfl) 0 p hp)

/-! ### binary operators -/

/-- the class name the dispatcher builds for a binary operator (`Bracket` alone has a logical variant) -/
def op2Name (lg : Bool) (o : Op2) (d : Nat) : String :=
  match o with
  | .bracket => (if lg then "Logical" else "") ++ "Bracket_" ++ toString d ++ "d"
  | o => Op2.name o ++ "_" ++ toString d ++ "d"

/-- the derivations the entry of a binary operator is stated with: the algebraic ones have a single
    entry, indexed with the physical derivations, which they do not involve -/
def lgOf (lg : Bool) : Op2 → Bool
  | .bracket => lg
  | _ => false

def row2 (d : Nat) (lg : Bool) (o : Op2) (τa τb : Ty) (ca cb : Char) : Bool :=
  match ty2 d o τa τb with
  | some τ =>
      covers d (lgOf lg o) τ (ord2 o) (op2Name lg o d) [ca, cb] (op2 o (ph 0 ca d) (ph 1 cb d)) &&
        (d == 1 || (rank d (ph 0 ca d) == rk τa && rank d (ph 1 cb d) == rk τb))
  | none => true

/-- only the bracket has a logical variant -/
theorem table2 : ∀ d ∈ [1, 2, 3], ∀ o ∈ [Op2.dot, .cross, .inner, .outer, .convect, .bracket],
    ∀ lg ∈ (if o = .bracket then [false, true] else [false]),
    ∀ τa ∈ [Ty.s, .v, .m], ∀ τb ∈ [Ty.s, .v, .m], ∀ ca ∈ sigsOf d τa, ∀ cb ∈ sigsOf d τb,
      row2 d lg o τa τb ca cb = true := by
  decide +kernel

theorem leaf2_core (S : DRing K) (d : Nat) (hd : d = 1 ∨ d = 2 ∨ d = 3) (lg : Bool) (o : Op2)
    (τa τb τ : Ty) (hty : ty2 d o τa τb = some τ) (a b a' b' : E)
    (hfa : ArgForm d τa a') (hfb : ArgForm d τb b')
    (hra : rank d a = rk τa) (hrb : rank d b = rk τb)
    (IHa : ∀ i j, InR d τa i j → den S a' i j = denG S d lg a i j)
    (IHb : ∀ i j, InR d τb i j → den S b' i j = denG S d lg b i j) :
    ∃ F, applyLeaf d (op2Name lg o d) [a', b'] = inst d (sigmaOf d [a', b']) F ∧
      shapeOK d τ F = true ∧ pdDepth F ≤ ord2 o ∧
      ∀ i j, InR d τ i j →
        den (bindS S (sigmaOf d [a', b'])) F i j = denG S d lg (op2 o a b) i j := by
  obtain ⟨ca, hcas, hca⟩ := sigOf_argForm d τa a' hfa
  obtain ⟨cb, hcbs, hcb⟩ := sigOf_argForm d τb b' hfb
  -- the entry of an algebraic operator is that of the class without logical variant
  have hrow := table2 d (by rcases hd with rfl | rfl | rfl <;> decide) o (by cases o <;> decide)
    (lgOf lg o) (by cases o <;> cases lg <;> decide) τa (by cases τa <;> decide) τb (by cases τb <;> decide)
    ca hcas cb hcbs
  have hname : op2Name (lgOf lg o) o d = op2Name lg o d := by cases o <;> rfl
  have hlgOf : lgOf (lgOf lg o) o = lgOf lg o := by cases o <;> rfl
  simp only [row2, hty, hname, hlgOf, Bool.and_eq_true, Bool.or_eq_true, beq_iff_eq] at hrow
  obtain ⟨hcov, hrk⟩ := hrow
  obtain ⟨F, hF⟩ := covers_spec _ _ _ _ _ _ _ hcov
  refine ⟨F, applyLeaf_formula d _ [a', b'] [ca, cb] F hF.known (by simp [hca, hcb]) hF.look,
    hF.shape, hF.depth, fun i j hij => ?_⟩
  have hb := (InR_iff d τ i j).mp hij
  have hkeys : ((sigmaOf d [a', b']).map (·.1)).Nodup := by
    rw [sigmaOf_two, List.map_append, bindArg_keys d 0 τa a' ca hfa hca,
      bindArg_keys d 1 τb b' cb hfb hcb]
    simpa [List.zipIdx] using hF.keys
  have hreadsa := ph_reads S d hd (lgOf lg o) 0 τa a' ca hfa hca (sigmaOf d [a', b']) (fun p hp =>
    findBind_of_mem _ hkeys p (by rw [sigmaOf_two]; exact List.mem_append_left _ hp))
  have hreadsb := ph_reads S d hd (lgOf lg o) 1 τb b' cb hfb hcb (sigmaOf d [a', b']) (fun p hp =>
    findBind_of_mem _ hkeys p (by rw [sigmaOf_two]; exact List.mem_append_right _ hp))
  have hlg : lgOf lg o = lg ∨ o = .dot ∨ o = .cross ∨ o = .inner := by
    cases o <;> first
      | exact Or.inl rfl
      | exact Or.inr (Or.inl rfl)
      | exact Or.inr (Or.inr (Or.inl rfl))
      | exact Or.inr (Or.inr (Or.inr rfl))
      | (cases τa <;> cases τb <;> cases hty)
  have hcongr := op2sem_congr S d (by rcases hd with rfl | rfl | rfl <;> decide) lg o τa τb τ hty
    (denG (bindS S (sigmaOf d [a', b'])) d (lgOf lg o) (ph 0 ca d)) (denG S d lg a)
    (denG (bindS S (sigmaOf d [a', b'])) d (lgOf lg o) (ph 1 cb d)) (denG S d lg b)
    (fun i j h => (hreadsa i j h).trans (IHa i j h)) (fun i j h => (hreadsb i j h).trans (IHb i j h))
    i j hij
  rw [hF.sound (bindS S _) i j hb.1 hb.2, denG_op2, denG_op2, op2sem_bindS, hra, hrb,
    op2sem_lg S d (lgOf lg o) lg o hlg]
  rcases hrk with h1 | hrP
  · subst h1
    obtain ⟨rfl, rfl⟩ := (InR_one τ i j).mp hij
    rw [op2sem_rank_1d S lg o τa τb τ hty (rank 1 (ph 0 ca 1)) (rank 1 (ph 1 cb 1)) (rk τa) (rk τb)]
    exact hcongr
  · rw [hrP.1, hrP.2]; exact hcongr

theorem op2_step {S : DRing K} {d : Nat} {P : Nat → E → Prop} {ext total : Prop}
    (W : Forms S d P ext total) (hd : d = 1 ∨ d = 2 ∨ d = 3) (lg : Bool) (o : Op2) (τa τb τ : Ty)
    (hty : ty2 d o τa τb = some τ) (k : Nat) (a b a' b' : E)
    (hra : rank d a = rk τa) (hrb : rank d b = rk τb)
    (ga : Good S d lg (Shaped (P (k + ord2 o)) d) τa a a')
    (gb : Good S d lg (Shaped (P (k + ord2 o)) d) τb b b') :
    Res total (Good S d lg (Shaped (P k) d) τ (op2 o a b)) (applyLeaf d (op2Name lg o d) [a', b']) := by
  have hP := fun t (h : P (k + ord2 o) t) => LX_scalarForm t (W.lx h)
  obtain ⟨F, happ, hF, hdep, hden⟩ := leaf2_core S d hd lg o τa τb τ hty a b a' b'
    (ga.1.argForm hP) (gb.1.argForm hP) hra hrb ga.2 gb.2
  rw [happ]
  refine (inst_shape W _ k τ F hF fun p hp => ?_).mono fun t ht =>
    ⟨ht.1, fun i j hij => (ht.2 i j).trans (hden i j hij)⟩
  rw [sigmaOf_two] at hp
  refine W.mono (k' := k + ord2 o) (by omega) ?_
  rcases List.mem_append.mp hp with hp | hp
  · exact ga.1.bindArg hP (W.ls rfl) 0 p hp
  · exact gb.1.bindArg hP (W.ls rfl) 1 p hp

end Sympde.Lower

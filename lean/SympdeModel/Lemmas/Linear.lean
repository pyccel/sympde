/-
  On the operator-free fragment `OpFree` (numbers, constants, symbols, functions, components, sums,
  products, powers with a numeral exponent, elementary functions, partial derivatives) the
  re-evaluation `reeval` of Model/Linear.lean always succeeds, stays in the fragment and preserves
  the classical meaning `denG`; substitution of operator-free values stays in the fragment.
-/
import SympdeModel.Sem.DenG
import SympdeModel.Model.Linear
import SympdeModel.Lemmas.Apply
import SympdeModel.Lemmas.Calc
namespace Sympde.Linear
open E
open Sympde.Sub

variable {K : Type} [CommRing K] [Algebra ℚ K]

mutual
def OpFree : E → Bool
  | num _ _ => true
  | cst _ => true
  | sym _ => true
  | sf _ _ => true
  | vf _ _ => true
  | idx b _ => OpFree b
  | add as => OpFreeList as
  | mul as => OpFreeList as
  | pow b (num _ _) => OpFree b
  | fn _ a => OpFree a
  | pd _ a => OpFree a
  | _ => false
def OpFreeList : List E → Bool
  | [] => true
  | a :: as => OpFree a && OpFreeList as
end

theorem OpFreeList_iff (as : List E) : OpFreeList as = true ↔ ∀ a ∈ as, OpFree a = true := by
  induction as with
  | nil => simp [OpFreeList]
  | cons a as ih => simp [OpFreeList, ih]

theorem OpFreeList_append (xs ys : List E) (hx : OpFreeList xs = true) (hy : OpFreeList ys = true) :
    OpFreeList (xs ++ ys) = true := by
  rw [OpFreeList_iff] at hx hy ⊢
  intro a ha
  exact (List.mem_append.mp ha).elim (hx a) (hy a)

theorem OpFreeList_filter (p : E → Bool) (xs : List E) (hx : OpFreeList xs = true) :
    OpFreeList (xs.filter p) = true := by
  rw [OpFreeList_iff] at hx ⊢
  exact fun a ha => hx a (List.mem_filter.mp ha).1

theorem OpFreeList_map (f : E → E) (hf : ∀ t, OpFree t = true → OpFree (f t) = true) (xs : List E)
    (hx : OpFreeList xs = true) : OpFreeList (xs.map f) = true := by
  rw [OpFreeList_iff] at hx ⊢
  intro a ha
  obtain ⟨x, hx', rfl⟩ := List.mem_map.mp ha
  exact hf x (hx x hx')

theorem denG_zeroNum (S : DRing K) (d : Nat) (lg : Bool) (x : E) (h : isZeroNum x = true) (i j : Nat) :
    denG S d lg x i j = 0 := by
  cases x <;> simp [isZeroNum] at h
  subst h
  simp [denG]

theorem denG_oneNum (S : DRing K) (d : Nat) (lg : Bool) (x : E) (h : isOneNum x = true) (i j : Nat) :
    denG S d lg x i j = 1 := by
  cases x <;> simp [isOneNum] at h
  obtain ⟨h1, h2⟩ := h
  subst h1 h2
  simp [denG]

theorem denGSum_flatAdd (S : DRing K) (d : Nat) (lg : Bool) (xs : List E) (i j : Nat) :
    denGSum S d lg (flatAdd xs) i j = denGSum S d lg xs i j := by
  induction xs using flatAdd.induct with
  | case1 => rfl
  | case2 ys xs ih => rw [flatAdd, denGSum_append, ih, denGSum, denG]
  | case3 x xs hx ih => rw [flatAdd.eq_3 x xs hx, denGSum, denGSum, ih]

theorem denGProd_flatMul (S : DRing K) (d : Nat) (lg : Bool) (xs : List E) (i j : Nat) :
    denGProd S d lg (flatMul xs) i j = denGProd S d lg xs i j := by
  induction xs using flatMul.induct with
  | case1 => rfl
  | case2 ys xs ih => rw [flatMul, denGProd_append, ih, denGProd, denG]
  | case3 x xs hx ih => rw [flatMul.eq_3 x xs hx, denGProd, denGProd, ih]

theorem denGSum_filter_zero (S : DRing K) (d : Nat) (lg : Bool) (xs : List E) (i j : Nat) :
    denGSum S d lg (xs.filter (fun x => !isZeroNum x)) i j = denGSum S d lg xs i j := by
  induction xs with
  | nil => rfl
  | cons x xs ih =>
    cases h : isZeroNum x
    · simp [h, denGSum, ih]
    · simp [h, denGSum, ih, denG_zeroNum S d lg x h]

theorem denGProd_filter_one (S : DRing K) (d : Nat) (lg : Bool) (xs : List E) (i j : Nat) :
    denGProd S d lg (xs.filter (fun x => !isOneNum x)) i j = denGProd S d lg xs i j := by
  induction xs with
  | nil => rfl
  | cons x xs ih =>
    cases h : isOneNum x
    · simp [h, denGProd, ih]
    · simp [h, denGProd, ih, denG_oneNum S d lg x h]

theorem denGProd_zero (S : DRing K) (d : Nat) (lg : Bool) (xs : List E) (i j : Nat)
    (h : xs.any isZeroNum = true) : denGProd S d lg xs i j = 0 := by
  induction xs with
  | nil => simp at h
  | cons x xs ih =>
    simp only [List.any_cons, Bool.or_eq_true] at h
    rcases h with h | h
    · simp [denGProd, denG_zeroNum S d lg x h]
    · simp [denGProd, ih h]

theorem denG_mkAdd (S : DRing K) (d : Nat) (lg : Bool) (xs : List E) (i j : Nat) :
    denG S d lg (mkAdd xs) i j = denGSum S d lg xs i j := by
  match xs with
  | [] => simp [mkAdd, denG, denGSum]
  | [x] => simp [mkAdd, denGSum]
  | x :: y :: ys => simp only [mkAdd, denG]

theorem denG_mkMul (S : DRing K) (d : Nat) (lg : Bool) (xs : List E) (i j : Nat) :
    denG S d lg (mkMul xs) i j = denGProd S d lg xs i j := by
  match xs with
  | [] => simp [mkMul, denG, denGProd]
  | [x] => simp [mkMul, denGProd]
  | x :: y :: ys => simp only [mkMul, denG]

theorem OpFree_mkAdd (xs : List E) (h : OpFreeList xs = true) : OpFree (mkAdd xs) = true := by
  match xs with
  | [] => rfl
  | [x] => exact (OpFreeList_iff _).mp h x (List.mem_singleton_self x)
  | x :: y :: ys => exact h

theorem OpFree_mkMul (xs : List E) (h : OpFreeList xs = true) : OpFree (mkMul xs) = true := by
  match xs with
  | [] => rfl
  | [x] => exact (OpFreeList_iff _).mp h x (List.mem_singleton_self x)
  | x :: y :: ys => exact h

theorem OpFreeList_flatAdd (xs : List E) (h : OpFreeList xs = true) : OpFreeList (flatAdd xs) = true := by
  induction xs using flatAdd.induct with
  | case1 => rfl
  | case2 ys xs ih =>
    rw [OpFreeList, OpFree, Bool.and_eq_true] at h
    exact OpFreeList_append _ _ h.1 (ih h.2)
  | case3 x xs hx ih =>
    rw [OpFreeList, Bool.and_eq_true] at h
    rw [flatAdd.eq_3 x xs hx, OpFreeList, h.1, ih h.2]
    rfl

theorem OpFreeList_flatMul (xs : List E) (h : OpFreeList xs = true) : OpFreeList (flatMul xs) = true := by
  induction xs using flatMul.induct with
  | case1 => rfl
  | case2 ys xs ih =>
    rw [OpFreeList, OpFree, Bool.and_eq_true] at h
    exact OpFreeList_append _ _ h.1 (ih h.2)
  | case3 x xs hx ih =>
    rw [OpFreeList, Bool.and_eq_true] at h
    rw [flatMul.eq_3 x xs hx, OpFreeList, h.1, ih h.2]
    rfl

theorem cleanList_eq (as : List E) : cleanList as = as.map clean := by
  induction as with
  | nil => rfl
  | cons a as ih => simp [cleanList, ih]

theorem clean_opfree (S : DRing K) (d : Nat) (lg : Bool) (e : E) (h : OpFree e = true) :
    OpFree (clean e) = true ∧ ∀ i j, denG S d lg (clean e) i j = denG S d lg e i j := by
  induction e using OpFree.induct
    (motive_2 := fun as => OpFreeList as = true →
      OpFreeList (cleanList as) = true ∧
      (∀ i j, denGSum S d lg (cleanList as) i j = denGSum S d lg as i j) ∧
      (∀ i j, denGProd S d lg (cleanList as) i j = denGProd S d lg as i j)) with
  | case13 => exact ⟨rfl, fun _ _ => rfl, fun _ _ => rfl⟩
  | case14 a as iha ihas =>
    rename_i hh
    rw [OpFreeList, Bool.and_eq_true] at hh
    obtain ⟨h1, h2⟩ := iha hh.1
    obtain ⟨g1, g2, g3⟩ := ihas hh.2
    refine ⟨?_, fun i j => ?_, fun i j => ?_⟩
    · rw [cleanList, OpFreeList, h1, g1]; rfl
    · rw [cleanList, denGSum, denGSum, h2, g2]
    · rw [cleanList, denGProd, denGProd, h2, g3]
  | case7 as ih =>
    obtain ⟨g1, g2, _⟩ := ih h
    refine ⟨?_, fun i j => ?_⟩
    · rw [clean]
      exact OpFree_mkAdd _ (OpFreeList_filter _ _ (OpFreeList_flatAdd _ g1))
    · rw [clean, denG_mkAdd, denGSum_filter_zero, denGSum_flatAdd, g2, denG]
  | case8 as ih =>
    obtain ⟨g1, _, g3⟩ := ih h
    have hd : ∀ i j, denGProd S d lg ((flatMul (cleanList as)).filter (fun x => !isOneNum x)) i j
        = denG S d lg (mul as) i j := fun i j => by
      rw [denGProd_filter_one, denGProd_flatMul, g3, denG]
    rw [clean]
    split
    · rename_i hz
      exact ⟨rfl, fun i j => by rw [← hd, denGProd_zero S d lg _ i j hz]; simp [denG]⟩
    · exact ⟨OpFree_mkMul _ (OpFreeList_filter _ _ (OpFreeList_flatMul _ g1)), fun i j => by rw [denG_mkMul, hd]⟩
  | case12 t h1 h2 h3 h4 h5 h6 h7 h8 h9 h10 h11 =>
    rw [OpFree.eq_12 t h1 h2 h3 h4 h5 h6 h7 h8 h9 h10 h11] at h
    cases h
  | case6 _ _ ih | case9 _ _ _ ih | case10 _ _ ih | case11 _ _ ih =>
    obtain ⟨h1, h2⟩ := ih h
    exact ⟨h1, fun i j => by simp only [clean, denG, h2]⟩
  | _ => exact ⟨rfl, fun _ _ => rfl⟩

/-! ### `dx` and `F[i]` on sums and constant multiples -/

theorem D_coef (S : DRing K) (d : Nat) (lg : Bool) (c : Coord) (x : E) (h : Calc.isCoef x = true) (i j : Nat) :
    S.D c (denG S d lg x i j) = 0 := by
  cases x <;> simp [Calc.isCoef, PD.isCoef] at h
  · simp [denG, S.D_rat]
  · simp [denG, S.D_cst]

theorem D_coef_prod (S : DRing K) (d : Nat) (lg : Bool) (c : Coord) (l : List E)
    (h : ∀ x ∈ l, Calc.isCoef x = true) (i j : Nat) : S.D c (denGProd S d lg l i j) = 0 := by
  induction l with
  | nil => simp [denGProd, S.D_one]
  | cons x xs ih =>
    simp only [denGProd, S.D_mul, D_coef S d lg c x (h x (by simp)) i j, ih (fun y hy => h y (by simp [hy]))]
    ring

theorem pdTerm_sound (S : DRing K) (d : Nat) (lg : Bool) (c : Coord) (t : E) (i j : Nat) :
    denG S d lg (pdTerm c t) i j = S.D c (denG S d lg t i j) := by
  fun_cases pdTerm c t with
  | case1 fs h => simp only [denG]
  | case2 fs h =>
    simp only [coefs, nonCoefs, denG, denGProd_append, denGProd, mul_one, denG_mulOf]
    rw [denGProd_filter S d lg Calc.isCoef fs i j, S.D_mul,
      D_coef_prod S d lg c (fs.filter Calc.isCoef) (fun x hx => (List.mem_filter.mp hx).2) i j]
    ring
  | case3 t ht => rw [denG]

theorem pdLin_sound (S : DRing K) (d : Nat) (lg : Bool) (c : Coord) (t : E) (i j : Nat) :
    denG S d lg (pdLin c t) i j = S.D c (denG S d lg t i j) := by
  fun_cases pdLin c t with
  | case1 ts =>
    rw [denG, denG]
    induction ts with
    | nil => exact (S.D_zero c).symm
    | cons x xs ih => rw [List.map, denGSum, denGSum, pdTerm_sound, ih, S.D_add]
  | case2 t ht => exact pdTerm_sound S d lg c t i j

theorem OpFree_mulOf (l : List E) (h : OpFreeList l = true) : OpFree (Calc.mulOf l) = true := by
  match l with
  | [] => rfl
  | [a] => exact (OpFreeList_iff _).mp h a (List.mem_singleton_self a)
  | a :: b :: rest => exact h

theorem isCoef_opfree (x : E) (h : Calc.isCoef x = true) : OpFree x = true := by
  cases x <;> first | rfl | cases h

/-- the shape shared by `pdTerm` and `idxTerm` on a product: the factors satisfying `p` are pulled
    out of the constructor `w` -/
theorem OpFree_pull (p : E → Bool) (w : E → E) (hw : ∀ t, OpFree t = true → OpFree (w t) = true) (fs : List E)
    (h : OpFreeList fs = true) :
    OpFree (mul (fs.filter p ++ [w (Calc.mulOf (fs.filter (fun x => !p x)))])) = true := by
  rw [OpFree]
  apply OpFreeList_append _ _ (OpFreeList_filter p fs h)
  rw [OpFreeList, hw _ (OpFree_mulOf _ (OpFreeList_filter _ fs h))]
  rfl

theorem pdTerm_opfree (c : Coord) (t : E) (h : OpFree t = true) : OpFree (pdTerm c t) = true := by
  fun_cases pdTerm c t with
  | case1 fs _ => exact h
  | case2 fs _ => exact OpFree_pull Calc.isCoef (pd c) (fun _ ht => ht) fs h
  | case3 t _ => exact h

theorem pdLin_opfree (c : Coord) (t : E) (h : OpFree t = true) : OpFree (pdLin c t) = true := by
  fun_cases pdLin c t with
  | case1 ts => exact OpFreeList_map _ (pdTerm_opfree c) ts h
  | case2 t _ => exact pdTerm_opfree c t h

theorem scalarFactor_indexFree (S : DRing K) (d : Nat) (lg : Bool) (x : E) (h : isScalarFactor x = true)
    (i j i' j' : Nat) : denG S d lg x i j = denG S d lg x i' j' := by
  cases x <;> first | rfl | cases h

theorem denGProd_scalar (S : DRing K) (d : Nat) (lg : Bool) (l : List E) (h : ∀ x ∈ l, isScalarFactor x = true)
    (i j i' j' : Nat) : denGProd S d lg l i j = denGProd S d lg l i' j' := by
  induction l with
  | nil => rfl
  | cons x xs ih =>
    simp only [denGProd]
    rw [scalarFactor_indexFree S d lg x (h x (by simp)) i j i' j', ih (fun y hy => h y (by simp [hy]))]

theorem idxTerm_sound (S : DRing K) (d : Nat) (lg : Bool) (k : Nat) (t : E) (i j : Nat) :
    denG S d lg (idxTerm k t) i j = denG S d lg t k 0 := by
  fun_cases idxTerm k t with
  | case1 fs h => rw [denG]
  | case2 fs h =>
    simp only [denG, denGProd_append, denGProd, mul_one, denG_mulOf]
    rw [denGProd_filter S d lg isScalarFactor fs k 0,
      denGProd_scalar S d lg _ (fun x hx => (List.mem_filter.mp hx).2) i j k 0]
  | case3 t ht => rw [denG]

theorem idxLin_sound (S : DRing K) (d : Nat) (lg : Bool) (k : Nat) (t : E) (i j : Nat) :
    denG S d lg (idxLin k t) i j = denG S d lg t k 0 := by
  fun_cases idxLin k t with
  | case1 ts =>
    rw [denG, denG]
    induction ts with
    | nil => rfl
    | cons x xs ih => rw [List.map, denGSum, denGSum, idxTerm_sound, ih]
  | case2 t ht => exact idxTerm_sound S d lg k t i j

theorem idxTerm_opfree (k : Nat) (t : E) (h : OpFree t = true) : OpFree (idxTerm k t) = true := by
  fun_cases idxTerm k t with
  | case1 fs _ => exact h
  | case2 fs _ => exact OpFree_pull isScalarFactor (fun b => idx b k) (fun _ ht => ht) fs h
  | case3 t _ => exact h

theorem idxLin_opfree (k : Nat) (t : E) (h : OpFree t = true) : OpFree (idxLin k t) = true := by
  fun_cases idxLin k t with
  | case1 ts => exact OpFreeList_map _ (idxTerm_opfree k) ts h
  | case2 t _ => exact idxTerm_opfree k t h

theorem reeval_opfree (S : DRing K) (d : Nat) (lg : Bool) (e : E) (h : OpFree e = true) :
    ∃ e', reeval d e = .ok e' ∧ OpFree e' = true ∧ ∀ i j, denG S d lg e' i j = denG S d lg e i j := by
  induction e using OpFree.induct
    (motive_2 := fun as => OpFreeList as = true →
      ∃ as', reevalList d as = .ok as' ∧ OpFreeList as' = true ∧
        (∀ i j, denGSum S d lg as' i j = denGSum S d lg as i j) ∧
        (∀ i j, denGProd S d lg as' i j = denGProd S d lg as i j)) with
  | case13 => exact ⟨[], rfl, rfl, fun _ _ => rfl, fun _ _ => rfl⟩
  | case14 a as iha ihas =>
    rename_i hh
    rw [OpFreeList, Bool.and_eq_true] at hh
    obtain ⟨a', ha, hoa, hda⟩ := iha hh.1
    obtain ⟨as', has, hoas, hs, hp⟩ := ihas hh.2
    refine ⟨a' :: as', by rw [reevalList, ha, has], by rw [OpFreeList, hoa, hoas]; rfl, fun i j => ?_, fun i j => ?_⟩
    · rw [denGSum, denGSum, hda, hs]
    · rw [denGProd, denGProd, hda, hp]
  | case7 as ih =>
    obtain ⟨as', has, hoas, hs, _⟩ := ih h
    have hc := clean_opfree S d lg (add as') hoas
    exact ⟨clean (add as'), by rw [reeval, has]; rfl, hc.1, fun i j => by rw [hc.2, denG, denG, hs]⟩
  | case8 as ih =>
    obtain ⟨as', has, hoas, _, hp⟩ := ih h
    have hc := clean_opfree S d lg (mul as') hoas
    exact ⟨clean (mul as'), by rw [reeval, has]; rfl, hc.1, fun i j => by rw [hc.2, denG, denG, hp]⟩
  | case9 b p q ih =>
    obtain ⟨b', hb, hob, hdb⟩ := ih h
    exact ⟨pow b' (num p q), by simp only [reeval, hb], hob, fun i j => by simp only [denG, hdb]⟩
  | case10 f a ih =>
    obtain ⟨a', ha, hoa, hda⟩ := ih h
    exact ⟨fn f a', by rw [reeval, ha]; rfl, hoa, fun i j => by simp only [denG, hda]⟩
  | case11 c a ih =>
    obtain ⟨a', ha, hoa, hda⟩ := ih h
    have hc := clean_opfree S d lg (pdLin c a') (pdLin_opfree c a' hoa)
    exact ⟨clean (pdLin c a'), by rw [reeval, ha]; rfl, hc.1, fun i j => by rw [hc.2, pdLin_sound, denG, hda]⟩
  | case6 b k ih =>
    obtain ⟨b', hb, hob, hdb⟩ := ih h
    have hc := clean_opfree S d lg (idxLin k b') (idxLin_opfree k b' hob)
    exact ⟨clean (idxLin k b'), by rw [reeval, hb]; rfl, hc.1, fun i j => by rw [hc.2, idxLin_sound, denG, hdb]⟩
  | case12 t h1 h2 h3 h4 h5 h6 h7 h8 h9 h10 h11 =>
    rw [OpFree.eq_12 t h1 h2 h3 h4 h5 h6 h7 h8 h9 h10 h11] at h
    cases h
  | _ => exact ⟨_, rfl, rfl, fun _ _ => rfl⟩

theorem mapLeaves_opfree (ρ : E → E) (hρ : ∀ t, Apply.isLeafKey t = true → OpFree (ρ t) = true) (e : E)
    (h : OpFree e = true) : OpFree (Apply.mapLeaves ρ e) = true := by
  induction e using OpFree.induct
    (motive_2 := fun as => OpFreeList as = true → OpFreeList (Apply.mapLeavesList ρ as) = true) with
  | case13 => rfl
  | case14 a as iha ihas =>
    rename_i hh
    rw [OpFreeList, Bool.and_eq_true] at hh
    rw [Apply.mapLeavesList, OpFreeList, iha hh.1, ihas hh.2]
    rfl
  | case2 | case4 | case5 => exact hρ _ rfl
  | case12 t h1 h2 h3 h4 h5 h6 h7 h8 h9 h10 h11 =>
    rw [OpFree.eq_12 t h1 h2 h3 h4 h5 h6 h7 h8 h9 h10 h11] at h
    cases h
  | case1 | case3 => rfl
  | case6 _ _ ih | case7 _ ih | case8 _ ih | case9 _ _ _ ih | case10 _ _ ih | case11 _ _ ih => exact ih h

theorem subst_opfree (σ : Rule) (hk : ∀ p ∈ σ, Apply.isLeafKey p.1 = true)
    (hv : ∀ p ∈ σ, OpFree p.2 = true) (e : E) (h : OpFree e = true) : OpFree (subst σ e) = true := by
  rw [Apply.subst_eq_mapLeaves σ hk]
  apply mapLeaves_opfree _ _ e h
  intro t ht
  unfold Apply.ruleFn
  cases hl : lookup σ t with
  | none => cases t <;> first | rfl | cases ht
  | some v => exact hv _ (lookup_some hl)

end Sympde.Linear

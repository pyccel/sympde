/-
  A substitution whose keys are functions / constants acts leaf by leaf on the original tree
  (`subst_eq_mapLeaves`), and leaf maps compose (`mapLeaves_fuse`): this is what makes a form call
  (Model/Apply.lean) a simultaneous replacement.  With pairwise distinct keys `lookup` finds exactly
  the pairs of the rule, also when the rule is reversed.
-/
import SympdeModel.Model.Apply
import SympdeModel.Lemmas.Subst
namespace Sympde.Apply
open E
open Sympde.Sub

/-- functions and constants: the only things a form call replaces -/
def isLeafKey : E → Bool
  | sf _ _ => true
  | vf _ _ => true
  | cst _ => true
  | _ => false

mutual
/-- apply `ρ` to every function / constant leaf, independently, and to nothing else -/
def mapLeaves (ρ : E → E) : E → E
  | sf n k => ρ (sf n k)
  | vf n k => ρ (vf n k)
  | cst n => ρ (cst n)
  | idx b i => idx (mapLeaves ρ b) i
  | add as => add (mapLeavesList ρ as)
  | mul as => mul (mapLeavesList ρ as)
  | pow b e => pow (mapLeaves ρ b) (mapLeaves ρ e)
  | fn f a => fn f (mapLeaves ρ a)
  | pd c a => pd c (mapLeaves ρ a)
  | op1 o a => op1 o (mapLeaves ρ a)
  | op2 o a b => op2 o (mapLeaves ρ a) (mapLeaves ρ b)
  | mat r c es => mat r c (mapLeavesList ρ es)
  | tup as => tup (mapLeavesList ρ as)
  | other t as => other t (mapLeavesList ρ as)
  | e => e
def mapLeavesList (ρ : E → E) : List E → List E
  | [] => []
  | a :: as => mapLeaves ρ a :: mapLeavesList ρ as
end

def ruleFn (σ : Rule) (t : E) : E := (lookup σ t).getD t

theorem ruleFn_nil (t : E) : ruleFn [] t = t := rfl

theorem ruleFn_cons_self (a v : E) (σ : Rule) : ruleFn ((a, v) :: σ) a = v := by
  simp only [ruleFn, lookup, eqb_refl, if_true, Option.getD_some]

theorem ruleFn_cons_ne (a v : E) (σ : Rule) (t : E) (h : a ≠ t) : ruleFn ((a, v) :: σ) t = ruleFn σ t := by
  have : eqb a t = false := Bool.eq_false_iff.mpr fun hh => h (eqb_eq a t hh)
  simp only [ruleFn, lookup, this, Bool.false_eq_true, if_false]

theorem lookup_nonleaf (σ : Rule) (hk : ∀ p ∈ σ, isLeafKey p.1 = true) (t : E) (ht : isLeafKey t = false) :
    lookup σ t = none := by
  cases h : lookup σ t with
  | none => rfl
  | some v =>
    have := hk _ (lookup_some h)
    simp only at this
    rw [this] at ht; cases ht

/-- simultaneous replacement, leaf by leaf: when the keys are functions / constants, the
    result is the tree in which every leaf is replaced by what the rule says about *that leaf of the
    original tree* — replaced values are never visited again -/
theorem subst_eq_mapLeaves (σ : Rule) (hk : ∀ p ∈ σ, isLeafKey p.1 = true) (e : E) :
    subst σ e = mapLeaves (ruleFn σ) e := by
  have hn := lookup_nonleaf σ hk
  induction e using E.rec (motive_2 := fun as => substList σ as = mapLeavesList (ruleFn σ) as) with
  | nil => rfl
  | cons a as iha ihas => rw [substList, mapLeavesList, iha, ihas]
  | sf | vf | cst => rfl
  | _ =>
    simp only [subst, mapLeaves, *]
    rw [hn, Option.getD_none]
    rfl

theorem mapLeaves_leaf (ρ : E → E) (t : E) (ht : isLeafKey t = true) : mapLeaves ρ t = ρ t := by
  cases t <;> first | rfl | cases ht

/-- two leaf maps one after the other are one leaf map: the one that maps a leaf `t` to the image of
    the whole tree `ρ' t` under the second -/
theorem mapLeaves_fuse (ρ ρ' ρ'' : E → E) (h : ∀ t, isLeafKey t = true → mapLeaves ρ (ρ' t) = ρ'' t) (e : E) :
    mapLeaves ρ (mapLeaves ρ' e) = mapLeaves ρ'' e := by
  induction e using E.rec
    (motive_2 := fun as => mapLeavesList ρ (mapLeavesList ρ' as) = mapLeavesList ρ'' as) with
  | nil => rfl
  | cons a as iha ihas => simp only [mapLeavesList, iha, ihas]
  | sf | vf | cst => exact h _ rfl
  | _ => simp only [mapLeaves, *]

theorem mapLeaves_self (e : E) : mapLeaves (fun t => t) e = e := by
  induction e using E.rec (motive_2 := fun as => mapLeavesList (fun t => t) as = as) with
  | nil => rfl
  | cons a as iha ihas => rw [mapLeavesList, iha, ihas]
  | _ => simp only [mapLeaves, *]

theorem mapLeaves_congr (ρ ρ' : E → E) (h : ∀ t, isLeafKey t = true → ρ t = ρ' t) (e : E) :
    mapLeaves ρ e = mapLeaves ρ' e := by
  have := mapLeaves_fuse ρ (fun t => t) ρ' (fun t ht => (mapLeaves_leaf ρ t ht).trans (h t ht)) e
  rwa [mapLeaves_self] at this

theorem mapLeaves_id (ρ : E → E) (h : ∀ t, isLeafKey t = true → ρ t = t) (e : E) : mapLeaves ρ e = e :=
  (mapLeaves_congr ρ (fun t => t) h e).trans (mapLeaves_self e)

theorem mapLeaves_mapLeaves (ρ ρ' : E → E) (h : ∀ t, isLeafKey t = true → isLeafKey (ρ' t) = true) (e : E) :
    mapLeaves ρ (mapLeaves ρ' e) = mapLeaves (fun t => ρ (ρ' t)) e :=
  mapLeaves_fuse ρ ρ' _ (fun t ht => mapLeaves_leaf ρ _ (h t ht)) e

/-! ### rules with pairwise distinct keys -/

theorem lookup_append (a b : Rule) (t : E) : lookup (a ++ b) t = (lookup a t).orElse (fun _ => lookup b t) := by
  induction a with
  | nil => simp [lookup]
  | cons p r ih =>
    obtain ⟨k, v⟩ := p
    simp only [List.cons_append, lookup]
    split
    · simp
    · exact ih

theorem lookup_none_of_not_mem (σ : Rule) (t : E) (h : t ∉ σ.map (·.1)) : lookup σ t = none := by
  cases hl : lookup σ t with
  | none => rfl
  | some v => exact absurd (List.mem_map.mpr ⟨(t, v), lookup_some hl, rfl⟩) h

theorem lookup_of_mem (σ : Rule) (hnd : (σ.map (·.1)).Nodup) (k v : E) (h : (k, v) ∈ σ) :
    lookup σ k = some v := by
  induction σ with
  | nil => cases h
  | cons p r ih =>
    obtain ⟨k', v'⟩ := p
    simp only [List.map_cons, List.nodup_cons] at hnd
    rcases List.mem_cons.mp h with h | h
    · rw [← h, lookup, eqb_refl, if_pos rfl]
    · have hne : eqb k' k = false := Bool.eq_false_iff.mpr fun hh =>
        hnd.1 (List.mem_map.mpr ⟨(k, v), h, (eqb_eq k' k hh).symm⟩)
      simp only [lookup, hne, Bool.false_eq_true, if_false]
      exact ih hnd.2 h

/-- either way the pairs of the list are exactly what `lookup` finds -/
theorem lookup_reverse (σ : Rule) (hnd : (σ.map (·.1)).Nodup) (t : E) : lookup σ.reverse t = lookup σ t := by
  have hnd' : (σ.reverse.map (·.1)).Nodup := by rw [List.map_reverse]; exact List.pairwise_reverse.mpr (hnd.imp Ne.symm)
  apply Option.ext
  intro v
  exact ⟨fun h => lookup_of_mem σ hnd t v (List.mem_reverse.mp (lookup_some h)),
    fun h => lookup_of_mem _ hnd' t v (List.mem_reverse.mpr (lookup_some h))⟩

/-- the leaf map that exchanges `us[i]` and `vs[i]` -/
def swapLeaf (us vs : List E) (t : E) : E :=
  ((lookup (us.zip vs) t).orElse (fun _ => lookup (vs.zip us) t)).getD t

theorem mem_zip_swap (us vs : List E) (a b : E) (h : (a, b) ∈ us.zip vs) : (b, a) ∈ vs.zip us := by
  induction us generalizing vs with
  | nil => simp at h
  | cons u us ih =>
    cases vs with
    | nil => simp at h
    | cons v vs =>
      simp only [List.zip_cons_cons, List.mem_cons, Prod.mk.injEq] at h ⊢
      rcases h with ⟨rfl, rfl⟩ | h
      · exact Or.inl ⟨rfl, rfl⟩
      · exact Or.inr (ih vs h)

theorem mem_zip_self (l : List E) : ∀ p ∈ l.zip l, p.1 = p.2 := by
  induction l with
  | nil => intro p hp; simp at hp
  | cons a l ih =>
    intro p hp
    simp only [List.zip_cons_cons, List.mem_cons] at hp
    rcases hp with rfl | hp
    · rfl
    · exact ih p hp

theorem applyRule_id (σ : Rule) (h : ∀ p ∈ σ, p.1 = p.2) (ints : List (String × E)) : applyRule σ ints = ints := by
  unfold applyRule
  induction ints with
  | nil => rfl
  | cons p ps ih => simp [subst_id σ h]

theorem kwRule_keys (f : Form) (kws : List (String × E)) (kw : Rule) (h : kwRule f kws = .ok kw) :
    ∀ p ∈ kw, p.1 ∈ freeVars f := by
  induction kws generalizing kw with
  | nil => simp only [kwRule] at h; injection h with h; subst h; intro p hp; cases hp
  | cons q rest ih =>
    obtain ⟨n, v⟩ := q
    simp only [kwRule] at h
    cases hv : freeVar f n with
    | none => simp [hv] at h
    | some var =>
      simp only [hv] at h
      cases hr : kwRule f rest with
      | error e => simp [hr] at h
      | ok r =>
        simp only [hr] at h
        injection h with h; subst h
        intro p hp
        rcases List.mem_cons.mp hp with rfl | hp
        · unfold freeVar at hv
          have := List.mem_of_getLast? hv
          exact (List.mem_filter.mp this).1
        · exact ih r hr p hp

theorem kwRule_unknown (f : Form) (kws : List (String × E)) (h : ∃ p ∈ kws, freeVar f p.1 = none) :
    kwRule f kws = .error .valueError := by
  induction kws with
  | nil => obtain ⟨p, hp, _⟩ := h; cases hp
  | cons q rest ih =>
    obtain ⟨n, v⟩ := q
    simp only [kwRule]
    cases hv : freeVar f n with
    | none => rfl
    | some var =>
      obtain ⟨p, hp, hn⟩ := h
      rcases List.mem_cons.mp hp with rfl | hp
      · simp only at hn; rw [hv] at hn; cases hn
      · simp [ih ⟨p, hp, hn⟩]

end Sympde.Apply

/-
  Induction principles for the expression AST.  `E` is a nested inductive type (argument lists),
  so its recursor `E.rec` asks for a second motive on `List E`; the principles below fix that
  motive once.  Core Lean only.
-/
import SympdeModel.Model.Expr
namespace Sympde
namespace E

theorem induction {P : E → Prop}
    (num : ∀ p q, P (num p q)) (cst : ∀ n, P (cst n)) (sym : ∀ n, P (sym n))
    (sf : ∀ n k, P (sf n k)) (vf : ∀ n k, P (vf n k))
    (idx : ∀ b i, P b → P (idx b i))
    (add : ∀ as, (∀ a ∈ as, P a) → P (add as))
    (mul : ∀ as, (∀ a ∈ as, P a) → P (mul as))
    (pow : ∀ b e, P b → P e → P (pow b e))
    (fn : ∀ f a, P a → P (fn f a))
    (pd : ∀ c a, P a → P (pd c a))
    (op1 : ∀ o a, P a → P (op1 o a))
    (op2 : ∀ o a b, P a → P b → P (op2 o a b))
    (mat : ∀ r c es, (∀ a ∈ es, P a) → P (mat r c es))
    (tup : ∀ as, (∀ a ∈ as, P a) → P (tup as))
    (normal : ∀ k, P (normal k))
    (other : ∀ t as, (∀ a ∈ as, P a) → P (other t as)) (e : E) : P e :=
  E.rec (motive_2 := fun as => ∀ a ∈ as, P a)
    num cst sym sf vf idx add mul pow fn pd op1 op2 mat tup normal other
    (fun _ h => nomatch h)
    (fun _ _ ha has _ hx => (List.mem_cons.mp hx).elim (fun e => e ▸ ha) (has _))
    e

theorem chain_induction {P : E → Prop} (pd : ∀ c a, P a → P (pd c a))
    (atom : ∀ e, (∀ c a, e ≠ E.pd c a) → P e) (e : E) : P e := by
  induction e using E.rec (motive_2 := fun _ => True) with
  | pd c a ih => exact pd c a ih
  | nil => trivial
  | cons _ _ _ _ => trivial
  | _ => exact atom _ (by intro c a h; cases h)

end E
end Sympde

/-
  The Python string primitives of Model/Pattern.lean on text of a known form: `strip` on padded
  text, `split(sep)` and `split()` on text cut at a separator / a blank, substring search.
-/
import SympdeModel.Model.Pattern
namespace Sympde.Pat

theorem rstrip_nil : rstrip [] = [] := rfl

theorem rstrip_pad (m w : Str) (hw : ∀ c ∈ w, isSpace c = true)
    (he : ∃ s c, m = s ++ [c] ∧ isSpace c = false) : rstrip (m ++ w) = m := by
  obtain ⟨s, c, rfl, hc⟩ := he
  unfold rstrip
  rw [List.reverse_append, List.dropWhile_append_of_pos (by simpa using hw)]
  simp [hc]

theorem strip_pad (w1 w2 m : Str) (hw1 : ∀ c ∈ w1, isSpace c = true)
    (hw2 : ∀ c ∈ w2, isSpace c = true) (hs : ∃ c s, m = c :: s ∧ isSpace c = false)
    (he : ∃ s c, m = s ++ [c] ∧ isSpace c = false) : strip (w1 ++ m ++ w2) = m := by
  obtain ⟨c, s, rfl, hc⟩ := hs
  unfold strip lstrip
  rw [List.append_assoc, List.dropWhile_append_of_pos hw1, List.cons_append,
    List.dropWhile_cons_of_neg (by simp [hc]), ← List.cons_append, rstrip_pad _ _ hw2 he]

theorem strip_blank (w : Str) (hw : ∀ c ∈ w, isSpace c = true) : strip w = [] := by
  have : lstrip w = [] := by simpa [lstrip] using List.dropWhile_append_of_pos (l₂ := []) hw
  rw [strip, this, rstrip_nil]

theorem hasSub_cons_not_mem (a : Char) (pat s : Str) (h : a ∉ s) : hasSub (a :: pat) s = false := by
  fun_induction hasSub (a :: pat) s <;> simp_all [List.isPrefixOf]

theorem escapeAll_no_backslash (s : Str) (h : '\\' ∉ s) :
    (escapeAll s).names = s ∧ (escapeAll s).lits = [] := by
  simp [escapeAll, literalsSrc, List.foldl, escapeStep, hasSub_cons_not_mem '\\' _ s h]

theorem literal_nil (s : Str) : literal [] s = s := rfl

theorem splitOn_ne_nil (sep : Char) (s : Str) : splitOn sep s ≠ [] := by
  fun_induction splitOn sep s <;> simp_all

theorem splitOn_no_sep (sep : Char) (s : Str) (h : sep ∉ s) : splitOn sep s = [s] := by
  fun_induction splitOn sep s <;> simp_all

theorem splitOn_append_sep (sep : Char) (a b : Str) (h : sep ∉ a) :
    splitOn sep (a ++ sep :: b) = a :: splitOn sep b := by
  induction a with
  | nil => simp [splitOn]
  | cons c cs ih =>
    have hc : (c == sep) = false := by simpa using fun e => h (by simp [e])
    rw [List.cons_append, splitOn]
    simp [hc, ih (fun hm => h (by simp [hm]))]

theorem any_isEmpty_iff (l : List Str) : l.any (·.isEmpty) = true ↔ [] ∈ l := by
  simp [List.isEmpty_iff]

theorem splitWs_ws_append (w s : Str) (hw : ∀ c ∈ w, isSpace c = true) :
    splitWs (w ++ s) = splitWs s := by
  induction w with
  | nil => rfl
  | cons c cs ih =>
    rw [List.cons_append]
    conv => lhs; unfold splitWs
    simpa only [hw c (by simp), if_true] using ih (fun x hx => hw x (by simp [hx]))

theorem splitWs_all_ws (w : Str) (hw : ∀ c ∈ w, isSpace c = true) : splitWs w = [] := by
  simpa [splitWs] using splitWs_ws_append w [] hw

theorem splitWs_word_append (a s : Str) (ha : ∀ c ∈ a, isSpace c = false) (hne : a ≠ [])
    (hs : ∀ d, s.head? = some d → isSpace d = true) : splitWs (a ++ s) = a :: splitWs s := by
  induction a with
  | nil => exact absurd rfl hne
  | cons c cs ih =>
    have hc := ha c (by simp)
    cases cs with
    | nil =>
      cases s with
      | nil => simp [splitWs, hc]
      | cons d ds => simp [splitWs, hc, hs d rfl]
    | cons c' cs' =>
      have ih' := ih (fun x hx => ha x (by simp [hx])) (by simp)
      simp only [List.cons_append] at ih' ⊢
      rw [splitWs.eq_3, ih']
      simp [hc, ha c' (by simp)]

/-- `str.split()` never yields an empty word: the check `if not name` of utils.py:107 is dead -/
theorem splitWs_nonempty (s : Str) : ∀ w ∈ splitWs s, w ≠ [] := by
  fun_induction splitWs s <;> simp_all

end Sympde.Pat

/-
  Negative verdicts from semantic refutations, product arguments (several components, possibly
  of the same kind), integrands in which an argument group does not occur.

  * the homogeneity test is sound for ANY list of function arguments on the operator-free
    fragment (`homogeneous_sound_opfree`, Lemmas/LinearSound.lean), so a semantic refutation in any differential ring gives a negative verdict for any
    argument list and any list of integrals (`reject_of_refutation_ints`); in the polynomial ring
    it is enough that the two sides differ at one point (`reject_of_evalAt`);
  * the fresh functions of the model are pairwise distinct (`fresh_ne`): component number `i`
    of a product argument gets `l#i`, never the function of another component;
  * `additiveShared` / `homogeneousShared` / `isLinearShared`: the VARIANT of the test in which
    one tag serves all the arguments (every component of the same kind is replaced by the same
    function).  It is not a model of the code; Props/C08.lean shows that it accepts non-linear
    integrands, which is why the distinctness above matters.
-/
import SympdeModel.Lemmas.LinearSum
import Std.Data.String.ToNat
namespace Sympde.Linear
open E
open Sympde.Sub
open Sympde.Apply (mapLeaves mapLeavesList ruleFn)

variable {K : Type} [CommRing K] [Algebra ℚ K]

/-! ### refutations

  Each class of violating integrands is refuted semantically in the polynomial differential ring
  (`Sem/Instances.lean`) with `α = 2`: the homogeneity test is sound, so it must fail, hence the
  verdict is negative (`UnconsistentLinearExpressionError`). -/

theorem reject_of_refutation_ints (S : DRing K) (d : Nat) (args : List E) (ints : List (String × E))
    (hargs : ∀ a ∈ args, isFn a = true) (hall : ∀ p ∈ ints, OpFree p.2 = true)
    (p : String × E) (hp : p ∈ ints)
    (href : denG S d false (subst (args.zip (mulVals args)) p.2) 0 0
      ≠ S.cst "alpha#" * denG S d false (subst (args.zip (freshList "l#" args)) p.2) 0 0) :
    isLinear d args ints = .ok false :=
  isLinear_false_of_mem d args ints hargs hall p hp
    (fun hh => href (homogeneous_sound_opfree S d false args p.2 hargs (hall p hp) hh))

/-! `evalAt pt` is a ring homomorphism; stated for `evalAt` itself so that rewriting with these
    facts needs no search for the homomorphism class -/
theorem evalAt_C (pt : Coord → ℚ) (r : ℚ) : evalAt pt (MvPolynomial.C r) = r := by simp [evalAt]
theorem evalAt_algebraMap (pt : Coord → ℚ) (r : ℚ) : evalAt pt (algebraMap ℚ PolyK r) = r := evalAt_C pt r
theorem evalAt_add (pt : Coord → ℚ) (a b : PolyK) : evalAt pt (a + b) = evalAt pt a + evalAt pt b := map_add _ a b
theorem evalAt_mul (pt : Coord → ℚ) (a b : PolyK) : evalAt pt (a * b) = evalAt pt a * evalAt pt b := map_mul _ a b
theorem evalAt_pow (pt : Coord → ℚ) (a : PolyK) (n : Nat) : evalAt pt (a ^ n) = evalAt pt a ^ n := map_pow _ a n
theorem evalAt_zero (pt : Coord → ℚ) : evalAt pt 0 = 0 := map_zero _
theorem evalAt_one (pt : Coord → ℚ) : evalAt pt 1 = 1 := map_one _
theorem evalAt_two (pt : Coord → ℚ) : evalAt pt 2 = 2 := map_ofNat _ 2
theorem evalAt_X (pt : Coord → ℚ) (c : Coord) : evalAt pt (MvPolynomial.X c) = pt c := MvPolynomial.eval_X c

/-- in the polynomial ring with `α = 2` it is enough that the two sides of the homogeneity
    comparison — the integrand with `α·l` resp. `l` put leaf by leaf for the arguments — take
    different values at ONE point -/
theorem reject_of_evalAt (d : Nat) (args : List E) (ints : List (String × E))
    (hargs : ∀ a ∈ args, isFn a = true) (hall : ∀ p ∈ ints, OpFree p.2 = true)
    (p : String × E) (hp : p ∈ ints) (sfv : String → PolyK) (pt : Coord → ℚ)
    (href : evalAt pt (denG (polyDRing sfv (fun _ _ => 0) (fun _ => 2)) d false
        (mapLeaves (ruleFn (args.zip (mulVals args))) p.2) 0 0)
      ≠ 2 * evalAt pt (denG (polyDRing sfv (fun _ _ => 0) (fun _ => 2)) d false
        (mapLeaves (ruleFn (args.zip (freshList "l#" args))) p.2) 0 0)) :
    isLinear d args ints = .ok false := by
  have hk : ∀ vals : List E, ∀ q ∈ args.zip vals, Apply.isLeafKey q.1 = true :=
    fun vals q hq => isFn_leaf _ (hargs _ (List.of_mem_zip hq).1)
  apply reject_of_refutation_ints (polyDRing sfv (fun _ _ => 0) (fun _ => 2)) d args ints hargs hall p hp
  rw [Apply.subst_eq_mapLeaves _ (hk _), Apply.subst_eq_mapLeaves _ (hk _)]
  apply ne_of_evalAt pt
  have hc : evalAt pt ((polyDRing sfv (fun _ _ => 0) (fun _ => 2)).cst "alpha#") = 2 := evalAt_C pt 2
  rwa [evalAt_mul, hc]

theorem polyDRing_sf (sfv : String → PolyK) (vfv : String → Nat → PolyK) (cstv : String → ℚ) (n : String) :
    (polyDRing sfv vfv cstv).sf n = sfv n := rfl
theorem polyDRing_sym (sfv : String → PolyK) (vfv : String → Nat → PolyK) (cstv : String → ℚ) (c : Coord) :
    (polyDRing sfv vfv cstv).sym c.name = MvPolynomial.X c := by
  show polySym c.name = _
  rw [polySym, Coord.ofName_name]

/-- `l = L` for every scalar function, `α = 2` -/
noncomputable def refuteRing (L : PolyK) : DRing PolyK :=
  polyDRing (fun _ => L) (fun _ _ => 0) (fun _ => 2)

theorem refute_sf (L : PolyK) (n : String) : (refuteRing L).sf n = L := rfl
theorem refute_cst (L : PolyK) (n : String) : (refuteRing L).cst n = MvPolynomial.C 2 := rfl
theorem refute_D (L : PolyK) (c : Coord) (a : PolyK) : (refuteRing L).D c a = MvPolynomial.pderiv c a := rfl
theorem refute_fn (L : PolyK) (f : String) (a : PolyK) : (refuteRing L).fn f a = a * a := rfl

theorem two_pow_ne (m : Nat) (hm : 2 ≤ m) : (2 : ℚ) ^ m ≠ 2 := by
  intro h
  have : (2 : ℚ) ^ m ≥ 2 ^ 2 := pow_le_pow_right₀ (by norm_num) hm
  rw [h] at this
  norm_num at this

theorem two_ne (a : PolyK) (pt : Coord → ℚ) (h : evalAt pt a ≠ 0) (n : Nat) (hn : 2 ≤ n) :
    (2 : PolyK) ^ n * a ≠ 2 * a := by
  apply ne_of_evalAt pt
  simp only [evalAt_mul, evalAt_pow, evalAt_two]
  exact fun he => two_pow_ne n hn (mul_right_cancel₀ h he)

/-- the fresh functions of the first and of the second component -/
def l0 (k : Kind) : E := sf ("l#" ++ toString 0) k
def l1 (k : Kind) : E := sf ("l#" ++ toString 1) k

theorem lookup_self (u : String) (k : Kind) (v : E) : lookup [(sf u k, v)] (sf u k) = some v := by
  rw [lookup, eqb_refl, if_pos rfl]

/-- a single scalar argument, one integral: `u ↦ α·l₀` against `u ↦ l₀` at one point, with `l₀ = L` -/
theorem reject_single (d : Nat) (u : String) (k : Kind) (dom : String) (e : E) (he : OpFree e = true)
    (L : PolyK) (pt : Coord → ℚ)
    (href : evalAt pt (denG (refuteRing L) d false (mapLeaves (ruleFn [(sf u k, mul [alpha, l0 k])]) e) 0 0)
      ≠ 2 * evalAt pt (denG (refuteRing L) d false (mapLeaves (ruleFn [(sf u k, l0 k)]) e) 0 0)) :
    isLinear d [sf u k] [(dom, e)] = .ok false :=
  reject_of_evalAt d [sf u k] _ (List.forall_mem_singleton.mpr rfl) (List.forall_mem_singleton.mpr he) (dom, e)
    (List.mem_singleton_self _) (fun _ => L) pt href

/-- `α = 2`, every scalar function `1`, except the fresh function of the FIRST component: `2`.
    The two components of a product argument get different values. -/
noncomputable def refutePair : DRing PolyK :=
  polyDRing (fun n => if n = "l#" ++ toString 0 then 2 else 1) (fun _ _ => 0) (fun _ => 2)

theorem refutePair_cst (n : String) : refutePair.cst n = MvPolynomial.C 2 := rfl
theorem refutePair_l0 : refutePair.sf ("l#" ++ toString 0) = 2 := by
  show (if "l#" ++ toString 0 = "l#" ++ toString 0 then (2 : PolyK) else 1) = 2
  exact if_pos rfl
theorem refutePair_l1 : refutePair.sf ("l#" ++ toString 1) = 1 := by
  show (if "l#" ++ toString 1 = "l#" ++ toString 0 then (2 : PolyK) else 1) = 1
  exact if_neg (by decide)
theorem refutePair_sf (n : String) : refutePair.sf n = 2 ∨ refutePair.sf n = 1 := by
  show (if n = "l#" ++ toString 0 then (2 : PolyK) else 1) = 2
    ∨ (if n = "l#" ++ toString 0 then (2 : PolyK) else 1) = 1
  by_cases h : n = "l#" ++ toString 0
  · left; rw [if_pos h]
  · right; rw [if_neg h]

/-- two scalar components, one integral: `(u₁, u₂) ↦ (α·l₀, α·l₁)` against `(l₀, l₁)` at the point
    `1`, with `l₀ = 2` and `l₁ = 1` -/
theorem reject_pair (d : Nat) (u1 u2 : String) (k1 k2 : Kind) (dom : String) (e : E) (he : OpFree e = true)
    (href : evalAt (fun _ => 1) (denG refutePair d false
        (mapLeaves (ruleFn [(sf u1 k1, mul [alpha, l0 k1]), (sf u2 k2, mul [alpha, l1 k2])]) e) 0 0)
      ≠ 2 * evalAt (fun _ => 1) (denG refutePair d false
        (mapLeaves (ruleFn [(sf u1 k1, l0 k1), (sf u2 k2, l1 k2)]) e) 0 0)) :
    isLinear d [sf u1 k1, sf u2 k2] [(dom, e)] = .ok false :=
  reject_of_evalAt d [sf u1 k1, sf u2 k2] _ (List.forall_mem_cons.mpr ⟨rfl, List.forall_mem_singleton.mpr rfl⟩)
    (List.forall_mem_singleton.mpr he) (dom, e) (List.mem_singleton_self _) _ _ href

/-! ### an argument group that does not occur -/

theorem length_freshList (pre : String) (args : List E) : (freshList pre args).length = args.length := by
  simp [freshList]

theorem length_mulVals (args : List E) : (mulVals args).length = args.length := by
  simp [mulVals, length_freshList]

theorem subst_argfree (args vals : List E) (e : E) (hlen : args.length ≤ vals.length)
    (h : occurs args e = false) : subst (args.zip vals) e = e := by
  apply subst_of_not_occurs
  rw [List.map_fst_zip hlen]
  exact h

theorem any_eqb_nonfn (args : List E) (hargs : ∀ a ∈ args, isFn a = true) (t : E) (ht : isFn t = false) :
    args.any (eqb · t) = false := by
  apply List.any_eq_false.mpr
  intro a ha h
  rw [← eqb_eq a t h, hargs a ha] at ht
  cases ht

/-- the integrand `x·v` of a form whose argument is `u ≠ v`: the argument does not occur … -/
theorem occurs_coord_times_other (u v : String) (k k' : Kind) (c : Coord) (huv : u ≠ v) :
    occurs [sf u k] (mul [sym c.name, sf v k']) = false := by
  simp [occurs, occursList, eqb, huv]

/-- … and the integrand is not zero: with `v = 1` it is the coordinate -/
theorem coord_times_fn_ne_zero (d : Nat) (v : String) (k' : Kind) (c : Coord) :
    denG (polyDRing (fun _ => 1) (fun _ _ => 0) (fun _ => 2)) d false (mul [sym c.name, sf v k']) 0 0 ≠ 0 := by
  apply ne_of_evalAt (fun _ => 1)
  simp only [denG, denGProd, polyDRing_sym, polyDRing_sf, mul_one, evalAt_zero, evalAt_X]
  norm_num

/-! ### the fresh functions of different components are different -/

theorem string_append_left_cancel (p a b : String) (h : p ++ a = p ++ b) : a = b := by
  have := congrArg String.toList h
  simp only [String.toList_append, List.append_cancel_left_eq] at this
  exact String.toList_inj.mp this

theorem freshName_inj (pre : String) (i j : Nat) (h : pre ++ toString i = pre ++ toString j) : i = j :=
  Nat.repr_injective (string_append_left_cancel pre _ _ h)

theorem fresh_ne (pre : String) (i j : Nat) (a b : E) (ha : isFn a = true) (hb : isFn b = true) (hij : i ≠ j) :
    fresh pre i a ≠ fresh pre j b := by
  intro h
  cases a <;> simp [isFn] at ha <;> cases b <;> simp [isFn] at hb <;>
    simp only [fresh, sf.injEq, vf.injEq] at h <;>
    first
      | exact hij (freshName_inj pre i j h.1)
      | cases h

theorem freshList_getElem (pre : String) (args : List E) (i : Nat) (hi : i < args.length) :
    (freshList pre args)[i]'(by rw [length_freshList]; exact hi) = fresh pre i args[i] := by
  simp [freshList]

/-! ### the variant with ONE tag for all arguments -/

/-- every argument is replaced by "the" fresh function of its kind: what a tag generated once,
    outside the loop over the arguments, amounts to -/
def sharedList (pre : String) (args : List E) : List E := args.map (fresh pre 0)

def additiveShared (d : Nat) (args : List E) (e : E) : Except Err Bool :=
  let ls := sharedList "l#" args
  let rs := sharedList "r#" args
  match substEval d args (List.zipWith (fun l r => add [l, r]) ls rs) e, substEval d args ls e, substEval d args rs e with
  | .ok n, .ok l, .ok r => .ok (RingEq.ringEq d n (add [l, r]))
  | .error x, _, _ => .error x
  | _, .error x, _ => .error x
  | _, _, .error x => .error x

def homogeneousShared (d : Nat) (args : List E) (e : E) : Except Err Bool :=
  let ls := sharedList "l#" args
  match substEval d args (ls.map (fun l => mul [alpha, l])) e, substEval d args ls e with
  | .ok n, .ok l => .ok (RingEq.ringEq d n (mul [alpha, l]))
  | .error x, _ => .error x
  | _, .error x => .error x

def isLinearShared (d : Nat) (args : List E) (ints : List (String × E)) : Except Err Bool :=
  match allOK (ints.map (fun p => additiveShared d args p.2)) with
  | .error x => .error x
  | .ok false => .ok false
  | .ok true => allOK (ints.map (fun p => homogeneousShared d args p.2))

theorem isLinearShared_single (d : Nat) (a : E) (ints : List (String × E)) :
    isLinearShared d [a] ints = isLinear d [a] ints := rfl

end Sympde.Linear

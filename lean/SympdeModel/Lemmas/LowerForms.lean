/-
  Scalar forms with powers and elementary functions, and the graded classes of scalar forms over
  which lowering is proved.  `LX` is `LS` plus `pow` and `fn`; `NDk S k t` says that `t` may be
  differentiated `k` more times (bases of powers that reach a negative exponent within `k`
  derivatives, arguments of `log`, values of `tan` differentiated more than three times are invertible; functions that are differentiated
  are in the table of the model of `sympy.diff`); `LN S k` is both.  `dEval` maps `LN S (k+1)` into
  `LN S k` (`dEval_LN`; exactness is `dEval_sound`, Props/C05).  `Forms S d P ext total` abstracts
  what the lowering proofs use of such a family `P k`; its instances are `LS` (`forms_LS`) and
  `LN S` (`forms_LN`).
-/
import SympdeModel.Lemmas.Lower
namespace Sympde.Lower
open E PD

variable {K : Type} [CommRing K] [Algebra ℚ K]

/-! ### extended lowered scalar forms -/

mutual
def LX : E → Bool
  | num _ _ => true
  | cst _ => true
  | sym _ => true
  | sf _ _ => true
  | idx (vf _ _) _ => true
  | pd _ a => LX a
  | add as => LXList as
  | mul as => LXList as
  | pow b e => LX b && LX e
  | fn _ a => LX a
  | _ => false
def LXList : List E → Bool
  | [] => true
  | a :: as => LX a && LXList as
end

theorem LXList_iff (as : List E) : LXList as = as.all LX := by
  induction as with
  | nil => simp [LXList]
  | cons a as ih => simp [LXList, ih]

theorem LXList_mem {as : List E} (h : LXList as = true) {a : E} (ha : a ∈ as) : LX a = true := by
  rw [LXList_iff, List.all_eq_true] at h
  exact h a ha

theorem LXList_of_mem {as : List E} (h : ∀ a ∈ as, LX a = true) : LXList as = true := by
  rw [LXList_iff, List.all_eq_true]; exact h

theorem LX_zero : LX zero = true := rfl
theorem LX_one : LX one = true := rfl

theorem LX_idx {b : E} {i : Nat} (h : LX (idx b i) = true) : ∃ n k, b = vf n k := by
  cases b <;> first | exact ⟨_, _, rfl⟩ | exact nomatch h

theorem LX_pow {b e : E} (h : LX (pow b e) = true) : LX b = true ∧ LX e = true :=
  Bool.and_eq_true_iff.mp h

theorem den_LX_free (S : DRing K) (e : E) (h : LX e = true) (i j : Nat) :
    den S e i j = den S e 0 0 := by
  induction e using E.induction with
  | add as ih => exact denSum_congr S as i j 0 0 (fun a ha => ih a ha (LXList_mem h ha))
  | mul as ih => exact denProd_congr S as i j 0 0 (fun a ha => ih a ha (LXList_mem h ha))
  | pd c a ih => exact congrArg (S.D c) (ih h)
  | pow b e ihb ihe => simp only [den, ihb (LX_pow h).1, ihe (LX_pow h).2]
  | fn f a ih => exact congrArg (S.fn f) (ih h)
  | num _ _ | cst _ | sym _ | sf _ _ | idx _ _ _ => rfl
  | _ => exact nomatch h

theorem mulOf_LX (l : List E) (h : ∀ a ∈ l, LX a = true) : LX (mulOf l) = true := by
  match l, h with
  | [], _ => rfl
  | [a], h => exact h a (by simp)
  | a :: b :: rest, h => exact LXList_of_mem h

/-! ### budgeted non-degeneracy -/

/-- `b` is a unit, with inverse `S.inv b`, at every component -/
def Inv1 (S : DRing K) (b : E) : Prop := ∀ i j, den S b i j * S.inv (den S b i j) = 1

/-- the condition on the base of a power that is differentiated `k` more times: a literal exponent
    `n ≥ k` never reaches a negative exponent; otherwise the base must be invertible -/
def powCond (S : DRing K) (k : Nat) (b e : E) : Prop :=
  match intLit e with
  | some (Int.ofNat n) => k ≤ n ∨ Inv1 S b
  | _ => k = 0 ∨ Inv1 S b

/-- the condition on an elementary function that is differentiated `k` more times -/
def fnCond (S : DRing K) (k : Nat) (f : String) (a : E) : Prop :=
  k = 0 ∨ (knownFn f = true ∧ (f = "log" → Inv1 S a) ∧ (f = "tan" → k ≤ 3 ∨ Inv1 S (fn "tan" a)))

mutual
/-- `t` may be differentiated `k` more times -/
def NDk (S : DRing K) (k : Nat) : E → Prop
  | pow b e => powCond S k b e ∧ NDk S k b ∧ NDk S k e
  | fn f a => fnCond S k f a ∧ NDk S k a
  | add as => NDkList S k as
  | mul as => NDkList S k as
  | pd _ a => NDk S k a
  | _ => True
def NDkList (S : DRing K) (k : Nat) : List E → Prop
  | [] => True
  | a :: as => NDk S k a ∧ NDkList S k as
end

theorem NDkList_iff (S : DRing K) (k : Nat) (as : List E) : NDkList S k as ↔ ∀ a ∈ as, NDk S k a := by
  induction as with
  | nil => simp [NDkList]
  | cons a as ih => simp [NDkList, ih]

theorem NDkList_mem (S : DRing K) (k : Nat) (as : List E) (h : NDkList S k as) (a : E) (ha : a ∈ as) :
    NDk S k a := (NDkList_iff S k as).mp h a ha

theorem NDkList_of_mem (S : DRing K) (k : Nat) (as : List E) (h : ∀ a ∈ as, NDk S k a) :
    NDkList S k as := (NDkList_iff S k as).mpr h

theorem powCond_of_inv (S : DRing K) (k : Nat) (b e : E) (h : Inv1 S b) : powCond S k b e := by
  unfold powCond
  split <;> exact Or.inr h

theorem powCond_mono (S : DRing K) (k k' : Nat) (hk : k ≤ k') (b e : E) (h : powCond S k' b e) :
    powCond S k b e := by
  unfold powCond at *
  split at h
  · exact h.imp (fun h => by omega) id
  · exact h.imp (fun h => by omega) id

theorem fnCond_mono (S : DRing K) (k k' : Nat) (hk : k ≤ k') (f : String) (a : E)
    (h : fnCond S k' f a) : fnCond S k f a :=
  h.imp (fun h => by omega) fun ⟨h1, h2, h3⟩ => ⟨h1, h2, fun hf => (h3 hf).imp (fun h => by omega) id⟩

theorem NDk_mono (S : DRing K) (k k' : Nat) (hk : k ≤ k') (e : E) (h : NDk S k' e) : NDk S k e := by
  induction e using E.induction with
  | add as ih => exact NDkList_of_mem S k as (fun a ha => ih a ha (NDkList_mem S k' as h a ha))
  | mul as ih => exact NDkList_of_mem S k as (fun a ha => ih a ha (NDkList_mem S k' as h a ha))
  | pd c a ih => exact ih h
  | pow b e ihb ihe => exact ⟨powCond_mono S k k' hk b e h.1, ihb h.2.1, ihe h.2.2⟩
  | fn f a ih => exact ⟨fnCond_mono S k k' hk f a h.1, ih h.2⟩
  | _ => trivial

theorem LS_LX_NDk (S : DRing K) (k : Nat) (e : E) (h : LS e = true) : LX e = true ∧ NDk S k e := by
  induction e using E.induction with
  | add as ih =>
    exact ⟨LXList_of_mem fun a ha => (ih a ha (LSList_mem h ha)).1,
      NDkList_of_mem S k as fun a ha => (ih a ha (LSList_mem h ha)).2⟩
  | mul as ih =>
    exact ⟨LXList_of_mem fun a ha => (ih a ha (LSList_mem h ha)).1,
      NDkList_of_mem S k as fun a ha => (ih a ha (LSList_mem h ha)).2⟩
  | pd c a ih => exact ih h
  | idx b i _ => obtain ⟨n, k, rfl⟩ := LS_idx h; exact ⟨rfl, trivial⟩
  | num _ _ | cst _ | sym _ | sf _ _ => exact ⟨rfl, trivial⟩
  | _ => exact nomatch h

/-- what `dEval_sound` (Props/C05) asks of its argument -/
theorem NDk_SuppS (S : DRing K) (k : Nat) (e : E) (hL : LX e = true) (hN : NDk S (k + 1) e) :
    SuppS e = true ∧ NonDeg S e := by
  induction e using E.induction with
  | add as ih =>
    have := fun a ha => ih a ha (LXList_mem hL ha) (NDkList_mem S _ as hN a ha)
    exact ⟨by simp only [SuppS, SuppSList_iff, List.all_eq_true]; exact fun a ha => (this a ha).1,
      NonDegList_of_mem S as fun a ha => (this a ha).2⟩
  | mul as ih =>
    have := fun a ha => ih a ha (LXList_mem hL ha) (NDkList_mem S _ as hN a ha)
    exact ⟨by simp only [SuppS, SuppSList_iff, List.all_eq_true]; exact fun a ha => (this a ha).1,
      NonDegList_of_mem S as fun a ha => (this a ha).2⟩
  | pd c a ih => exact ih hL hN
  | pow b e ihb ihe =>
    have hb := ihb (LX_pow hL).1 hN.2.1
    have he := ihe (LX_pow hL).2 hN.2.2
    refine ⟨by simp only [SuppS, hb.1, he.1, Bool.and_self], ?_, hb.2, he.2⟩
    have hc := hN.1
    unfold powCond at hc
    split
    · rename_i m hm
      rw [hm] at hc
      exact hc.resolve_left (by omega)
    · trivial
  | fn f a ih =>
    have ha := ih hL hN.2
    obtain ⟨h1, _, _⟩ := hN.1.resolve_left (by omega)
    exact ⟨by simp only [SuppS, h1, ha.1, Bool.and_self], ha.2⟩
  | idx b i _ => obtain ⟨n, k, rfl⟩ := LX_idx hL; exact ⟨rfl, trivial⟩
  | num _ _ | cst _ | sym _ | sf _ _ => exact ⟨rfl, trivial⟩
  | _ => exact nomatch hL

/-! ### closure of the class and of the budget under the coordinate operators -/

/-- an extended scalar form that may be differentiated `k` more times -/
def LN (S : DRing K) (k : Nat) (e : E) : Prop := LX e = true ∧ NDk S k e

theorem LN_zero (S : DRing K) (k : Nat) : LN S k zero := ⟨rfl, trivial⟩
theorem LN_one (S : DRing K) (k : Nat) : LN S k one := ⟨rfl, trivial⟩
theorem LN_num (S : DRing K) (k : Nat) (p : Int) (q : Nat) : LN S k (num p q) := ⟨rfl, trivial⟩

theorem LN_mono (S : DRing K) (k k' : Nat) (hk : k ≤ k') (e : E) (h : LN S k' e) : LN S k e :=
  ⟨h.1, NDk_mono S k k' hk e h.2⟩

theorem LN_pred (S : DRing K) (k : Nat) (e : E) (h : LN S (k + 1) e) : LN S k e :=
  LN_mono S k (k + 1) (Nat.le_succ k) e h

theorem LN_add (S : DRing K) (k : Nat) (l : List E) (h : ∀ a ∈ l, LN S k a) : LN S k (add l) :=
  ⟨LXList_of_mem fun a ha => (h a ha).1, NDkList_of_mem S k l fun a ha => (h a ha).2⟩

theorem LN_mul (S : DRing K) (k : Nat) (l : List E) (h : ∀ a ∈ l, LN S k a) : LN S k (mul l) :=
  ⟨LXList_of_mem fun a ha => (h a ha).1, NDkList_of_mem S k l fun a ha => (h a ha).2⟩

theorem LN_add_mem (S : DRing K) (k : Nat) (l : List E) (h : LN S k (add l)) : ∀ a ∈ l, LN S k a :=
  fun a ha => ⟨LXList_mem h.1 ha, NDkList_mem S k l h.2 a ha⟩

theorem LN_mul_mem (S : DRing K) (k : Nat) (l : List E) (h : LN S k (mul l)) : ∀ a ∈ l, LN S k a :=
  fun a ha => ⟨LXList_mem h.1 ha, NDkList_mem S k l h.2 a ha⟩

theorem LN_pow (S : DRing K) (k : Nat) (b e : E) (hb : LN S k b) (he : LN S k e)
    (hc : powCond S k b e) : LN S k (pow b e) :=
  ⟨Bool.and_eq_true_iff.mpr ⟨hb.1, he.1⟩, hc, hb.2, he.2⟩

theorem LN_fn (S : DRing K) (k : Nat) (f : String) (a : E) (ha : LN S k a) (hc : fnCond S k f a) :
    LN S k (fn f a) :=
  ⟨ha.1, hc, ha.2⟩

theorem forall_mem_pair {α : Type} {P : α → Prop} {a b : α} (ha : P a) (hb : P b) : ∀ x ∈ [a, b], P x := by
  simp [ha, hb]

theorem forall_mem_triple {α : Type} {P : α → Prop} {a b c : α} (ha : P a) (hb : P b) (hc : P c) :
    ∀ x ∈ [a, b, c], P x := by
  simp [ha, hb, hc]

theorem LN_mulOf (S : DRing K) (k : Nat) (l : List E) (h : ∀ a ∈ l, LN S k a) : LN S k (mulOf l) := by
  match l, h with
  | [], _ => exact LN_one S k
  | [a], h => exact h a (by simp)
  | a :: b :: rest, h => exact LN_mul S k _ h

theorem prodRule_LN (S : DRing K) (k : Nat) (l : List (E × E))
    (h : ∀ p ∈ l, LN S k p.1 ∧ LN S k p.2) : LN S k (prodRule l) := by
  induction l with
  | nil => exact LN_zero S k
  | cons p rest ih =>
    have hp := h p (by simp)
    have ih' := ih (fun q hq => h q (by simp [hq]))
    cases rest with
    | nil => exact hp.2
    | cons q rest' =>
      have hm : LN S k (mulOf ((q :: rest').map (·.1))) :=
        LN_mulOf S k _ fun x hx => by
          obtain ⟨p, hp', rfl⟩ := List.mem_map.mp hx
          exact (h p (by simp [hp'])).1
      exact LN_add S k _ (forall_mem_pair (LN_mul S k _ (forall_mem_pair hp.1 ih'))
        (LN_mul S k _ (forall_mem_pair hp.2 hm)))

theorem powRule_LN (S : DRing K) (k : Nat) (b e db de : E) (hb : LN S k b) (he : LN S k e)
    (hdb : LN S k db) (hde : LN S k de) (hc : powCond S (k + 1) b e) :
    LN S k (powRule b e db de) := by
  unfold powRule
  unfold powCond at hc
  cases hl : intLit e with
  | some n =>
    rw [hl] at hc
    have hp : LN S k (pow b (num (n - 1) 1)) := by
      refine LN_pow S k _ _ hb (LN_num S k _ _) ?_
      unfold powCond
      rw [intLit_num]
      cases n with
      | ofNat m =>
        rcases hc with h | h
        · have : (Int.ofNat m - 1 : Int) = Int.ofNat (m - 1) := by
            simp only [Int.ofNat_eq_natCast]; omega
          rw [this]
          exact Or.inl (by omega)
        · split <;> exact Or.inr h
      | negSucc m => split <;> exact Or.inr (hc.resolve_left (by omega))
    exact LN_mul S k _ (forall_mem_triple (LN_num S k n 1) hp hdb)
  | none =>
    rw [hl] at hc
    have hI : Inv1 S b := hc.resolve_left (by omega)
    have hlog : LN S k (fn "log" b) :=
      LN_fn S k _ _ hb (Or.inr ⟨by decide, fun _ => hI, fun h => absurd h (by decide)⟩)
    have hinv : LN S k (pow b (num (-1) 1)) :=
      LN_pow S k _ _ hb (LN_num S k _ _) (powCond_of_inv S k _ _ hI)
    have hpow : LN S k (pow b e) := LN_pow S k _ _ hb he (powCond_of_inv S k _ _ hI)
    exact LN_mul S k _ (forall_mem_pair
      (LN_add S k _ (forall_mem_pair (LN_mul S k _ (forall_mem_pair hlog hde))
        (LN_mul S k _ (forall_mem_triple he hdb hinv)))) hpow)

theorem fnDeriv_LN (S : DRing K) (k : Nat) (f : String) (a : E) (ha : LN S k a)
    (hf : knownFn f = true) (hlog : f = "log" → Inv1 S a)
    (htan : f = "tan" → k + 1 ≤ 3 ∨ Inv1 S (fn "tan" a)) : LN S k (fnDeriv f a) := by
  have hfn : ∀ g : String, knownFn g = true → g ≠ "log" → g ≠ "tan" → LN S k (fn g a) :=
    fun g hg h1 h2 => LN_fn S k g a ha (Or.inr ⟨hg, fun h => absurd h h1, fun h => absurd h h2⟩)
  unfold knownFn at hf
  simp only [Bool.or_eq_true, beq_iff_eq] at hf
  rcases hf with (((((rfl | rfl) | rfl) | rfl) | rfl) | rfl) | rfl
  · exact hfn "cos" (by decide) (by decide) (by decide)
  · exact LN_mul S k _ (forall_mem_pair (LN_num S k (-1) 1)
      (hfn "sin" (by decide) (by decide) (by decide)))
  · exact hfn "exp" (by decide) (by decide) (by decide)
  · exact LN_pow S k _ _ ha (LN_num S k _ _) (powCond_of_inv S k _ _ (hlog rfl))
  · exact hfn "cosh" (by decide) (by decide) (by decide)
  · exact hfn "sinh" (by decide) (by decide) (by decide)
  · have ht := htan rfl
    have htn : LN S k (fn "tan" a) :=
      LN_fn S k _ _ ha (Or.inr ⟨by decide, fun h => absurd h (by decide),
        fun _ => ht.imp (fun h => by omega) id⟩)
    have hp : LN S k (pow (fn "tan" a) (num 2 1)) :=
      LN_pow S k _ _ htn (LN_num S k _ _) (show (2 : Nat) ≥ k ∨ _ from ht.imp (fun h => by omega) id)
    exact LN_add S k _ (forall_mem_pair (LN_one S k) hp)

theorem sdiff_LN (S : DRing K) (c : Coord) (k : Nat) (e : E) (hs : LN S (k + 1) e)
    (hf : hasT e = false) : LN S k (PD.sdiff c e) := by
  induction e using E.induction with
  | num p q => exact LN_zero S k
  | cst s => exact LN_zero S k
  | sym s =>
    simp only [PD.sdiff]
    split
    · exact LN_one S k
    · exact LN_zero S k
  | add as ih =>
    have hs' := LN_add_mem S (k + 1) as hs
    simp only [PD.sdiff, sdiffList_eq]
    refine LN_add S k _ fun x hx => ?_
    obtain ⟨a, ha, rfl⟩ := List.mem_map.mp hx
    exact ih a ha (hs' a ha) (hasT_list_false as hf a ha)
  | mul as ih =>
    have hs' := LN_mul_mem S (k + 1) as hs
    simp only [PD.sdiff, sdiffList_eq]
    refine prodRule_LN S k _ fun p hp => ?_
    have := mem_zip_map (PD.sdiff c) as p hp
    rw [this.2]
    exact ⟨LN_pred S k _ (hs' _ this.1), ih p.1 this.1 (hs' _ this.1) (hasT_list_false as hf _ this.1)⟩
  | pow b e ihb ihe =>
    have hb : LN S (k + 1) b := ⟨(LX_pow hs.1).1, hs.2.2.1⟩
    have he : LN S (k + 1) e := ⟨(LX_pow hs.1).2, hs.2.2.2⟩
    have hf' := Bool.or_eq_false_iff.mp hf
    exact powRule_LN S k b e _ _ (LN_pred S k b hb) (LN_pred S k e he) (ihb hb hf'.1) (ihe he hf'.2)
      hs.2.1
  | fn f a iha =>
    have ha : LN S (k + 1) a := ⟨hs.1, hs.2.2⟩
    obtain ⟨h1, h2, h3⟩ := hs.2.1.resolve_left (by omega)
    exact LN_mul S k _ (forall_mem_pair (fnDeriv_LN S k f a (LN_pred S k a ha) h1 h2 h3) (iha ha hf))
  | idx b i _ => obtain ⟨n, k, rfl⟩ := LX_idx hs.1; exact nomatch hf
  | sf _ _ | vf _ _ | pd _ _ _ => exact nomatch hf
  | _ => exact nomatch hs.1

theorem noT_LN (S : DRing K) (c : Coord) (k : Nat) (e : E) (hs : LN S (k + 1) e) (hf : hasT e = false)
    (b : Bool) : LN S k (if b then zero else PD.sdiff c e) := by
  cases b
  · exact sdiff_LN S c k e hs hf
  · exact LN_zero S k

theorem dEvalList_LN (S : DRing K) (d : Nat) (c : Coord) (k : Nat) (as : List E)
    (ih : ∀ a ∈ as, Res False (LN S k) (dEval d c a)) :
    Res False (fun rs => ∀ r ∈ rs, LN S k r) (dEvalList d c as) := by
  induction as with
  | nil => exact Res.ok fun r hr => nomatch hr
  | cons a as iha =>
    simp only [dEvalList]
    exact (ih a (by simp)).bind fun r hr =>
      (iha fun x hx => ih x (by simp [hx])).bind fun rs hrs =>
        Res.ok fun x hx => by
          rcases List.mem_cons.mp hx with rfl | hx
          · exact hr
          · exact hrs x hx

theorem dProd_LN (S : DRing K) (c : Coord) (k : Nat) (l : List (E × Except Err E))
    (hl : ∀ p ∈ l, LN S (k + 1) p.1 ∧ Res False (LN S k) p.2) :
    Res False (LN S k) (dProd c l) := by
  induction l with
  | nil => exact Res.ok (LN_zero S k)
  | cons p rest ih =>
    obtain ⟨a, da⟩ := p
    have hp := hl (a, da) (by simp)
    cases rest with
    | nil => exact hp.2
    | cons q rest' =>
      have hrest : ∀ p ∈ q :: rest', LN S (k + 1) p.1 ∧ Res False (LN S k) p.2 :=
        fun p hp' => hl p (by simp [hp'])
      have hfst : ∀ x ∈ (q :: rest').map (·.1), LN S (k + 1) x := fun x hx => by
        obtain ⟨p, hp', rfl⟩ := List.mem_map.mp hx
        exact (hrest p hp').1
      have hfb : Res False (LN S k) (match (q :: rest') with
            | [(_, dv)] => dv
            | _ => if !hasTList ((q :: rest').map (·.1)) then
                      Except.ok (if allNumber ((q :: rest').map (·.1)) then zero
                                 else PD.sdiff c (mulOf ((q :: rest').map (·.1))))
                    else dProd c (q :: rest')) := by
        cases rest' with
        | nil => exact (hrest q (by simp)).2
        | cons q2 rest'' =>
          simp only
          split
          · rename_i hnf
            have hT : hasTList ((q :: q2 :: rest'').map (·.1)) = false := by simpa using hnf
            exact Res.ok (noT_LN S c k (mul ((q :: q2 :: rest'').map Prod.fst))
              (LN_mul S (k + 1) _ hfst) hT _)
          · exact ih hrest
      simp only [dProd]
      exact hp.2.bind fun fa h1 => hfb.bind fun fb h2 => Res.ok
        (LN_add S k _ (forall_mem_pair (LN_mul S k _ (forall_mem_pair (LN_pred S k a hp.1) h2))
          (LN_mul S k _ (forall_mem_pair h1
            (LN_mulOf S k _ fun x hx => LN_pred S k x (hfst x hx))))))

theorem dEval_LN (S : DRing K) (d : Nat) (c : Coord) (k : Nat) (e : E) (hs : LN S (k + 1) e) :
    Res False (LN S k) (dEval d c e) := by
  induction e using E.induction with
  | num p q => exact Res.ok (LN_zero S k)
  | cst s => exact Res.ok (LN_zero S k)
  | sym s => exact Res.ok (sdiff_LN S c k (sym s) hs rfl)
  | sf s k' => exact Res.ok ⟨rfl, trivial⟩
  | idx b i _ => exact Res.ok (LN_pred S k _ hs)
  | pd c' a _ =>
    simp only [dEval]
    split
    · exact reorderL_closed (P := LN S k) (fun _ _ => Iff.rfl) False c (pd c' a) (LN_pred S k _ hs)
    · exact Res.ok (LN_pred S k _ hs)
  | add as ih =>
    simp only [dEval]
    split
    · rename_i hnf
      have hT : hasTList as = false := by simpa using hnf
      exact Res.ok (noT_LN S c k (add as) hs hT _)
    · exact (dEvalList_LN S d c k as fun a ha => ih a ha (LN_add_mem S _ as hs a ha)).bind
        fun rs hrs => Res.ok (LN_add S k rs hrs)
  | mul as ih =>
    have hs' := LN_mul_mem S (k + 1) as hs
    simp only [dEval]
    split
    · rename_i hnf
      have hT : hasTList as = false := by simpa using hnf
      exact Res.ok (noT_LN S c k (mul as) hs hT _)
    · rw [dEvalListE_eq]
      refine (dProd_LN S c k _ fun p hp => ?_).bind fun v hv => Res.ok
        (LN_mul S k _ (forall_mem_pair
          (LN_mulOf S k _ fun a ha => LN_pred S k a (hs' a (List.mem_filter.mp ha).1)) hv))
      have := mem_zip_map (dEval d c) as p (List.mem_filter.mp hp).1
      rw [this.2]
      exact ⟨hs' _ this.1, ih p.1 this.1 (hs' _ this.1)⟩
  | pow b e ihb ihe =>
    have hb : LN S (k + 1) b := ⟨(LX_pow hs.1).1, hs.2.2.1⟩
    have he : LN S (k + 1) e := ⟨(LX_pow hs.1).2, hs.2.2.2⟩
    simp only [dEval]
    split
    · rename_i hnf
      have hT : hasT (pow b e) = false := by simpa [hasT] using hnf
      exact Res.ok (noT_LN S c k (pow b e) hs hT _)
    · exact (ihb hb).bind fun db hdb => (ihe he).bind fun de hde =>
        Res.ok (powRule_LN S k b e db de (LN_pred S k b hb) (LN_pred S k e he) hdb hde hs.2.1)
  | fn f a iha =>
    simp only [dEval]
    split
    · rename_i hnf
      have hT : hasT (fn f a) = false := by simpa using hnf
      split
      · exact Res.ok (LN_zero S k)
      · exact Res.ok (sdiff_LN S c k (fn f a) hs hT)
    · exact ⟨False.elim, fun r hr => nomatch hr⟩
  | _ => exact nomatch hs.1

/-! ### graded classes of scalar forms -/

/-- a class of scalar forms graded by the number of derivatives its members still admit, `P k t`:
    between the forms `LS` and `LX`, closed under sums and products, under powers and functions if
    `ext`, and mapped by the coordinate operators from grade `k + 1` to grade `k`, exactly (and, if
    `total`, without refusal).  Everything about lowering is proved for such a class -/
structure Forms (S : DRing K) (d : Nat) (P : Nat → E → Prop) (ext total : Prop) : Prop where
  lx : ∀ {k t}, P k t → LX t = true
  ls : ∀ {k t}, LS t = true → P k t
  mono : ∀ {k k' t}, k ≤ k' → P k' t → P k t
  sum : ∀ {k l}, (∀ a ∈ l, P k a) → P k (add l)
  prod : ∀ {k l}, (∀ a ∈ l, P k a) → P k (mul l)
  pow : ext → ∀ {k b x}, P k b → P k x → powCond S k b x → P k (pow b x)
  fn : ext → ∀ {k f a}, P k a → fnCond S k f a → P k (fn f a)
  deriv : ∀ {k e} (c : Coord), P (k + 1) e →
    Res total (fun r => P k r ∧ ∀ i j, den S r i j = S.D c (den S e i j)) (dEval d c e)

theorem forms_LS (S : DRing K) (d : Nat) (total : Prop) :
    Forms S d (fun _ t => LS t = true) False total where
  lx h := (LS_LX_NDk S 0 _ h).1
  ls h := h
  mono _ h := h
  sum h := LSList_of_mem h
  prod h := LSList_of_mem h
  pow h := h.elim
  fn h := h.elim
  deriv c h := (dEval_LS S d c _ h).imp_total fun _ => trivial

/-- the forms `LX` with the budget `NDk`; the coordinate operators may refuse (a function of a field),
    and are exact by `dEval_sound` -/
theorem forms_LN (S : DRing K) (T : FnTable S) (d : Nat) : Forms S d (LN S) True False where
  lx h := h.1
  ls h := LS_LX_NDk S _ _ h
  mono hk h := LN_mono S _ _ hk _ h
  sum h := LN_add S _ _ h
  prod h := LN_mul S _ _ h
  pow _ {_ _ _} hb hx hc := LN_pow S _ _ _ hb hx hc
  fn _ {_ _ _} ha hc := LN_fn S _ _ _ ha hc
  deriv {k e} c h := ⟨False.elim, fun r hr =>
    have hS := NDk_SuppS S k e h.1 h.2
    ⟨(dEval_LN S d c k e h).2 r hr, dEval_sound S T d c e hS.1 hS.2 r hr⟩⟩

end Sympde.Lower

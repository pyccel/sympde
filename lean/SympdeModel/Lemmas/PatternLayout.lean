/-
  The layout of a pattern string — names separated by commas and/or blanks, optional padding,
  optional trailing comma — and the proof that the tokenising stage of `expandStr` (strip,
  trailing comma, split on commas, strip, split on blanks) recovers exactly the names.
-/
import SympdeModel.Lemmas.PatternStr
namespace Sympde.Pat

def Blank (w : Str) : Prop := ∀ c ∈ w, isSpace c = true

/-- a name token: non-empty, without blank, comma or backslash -/
def IsName (n : Str) : Prop := n ≠ [] ∧ ∀ c ∈ n, isSpace c = false ∧ c ≠ ',' ∧ c ≠ '\\'

/-- names separated by blanks: `first (d w name)*` where `d :: w` is a non-empty blank -/
structure Field where
  first : Str
  rest : List (Char × Str × Str)

def Field.core (f : Field) : Str := f.first ++ f.rest.flatMap (fun t => t.1 :: (t.2.1 ++ t.2.2))
def Field.names (f : Field) : List Str := f.first :: f.rest.map (·.2.2)
def Field.WF (f : Field) : Prop :=
  IsName f.first ∧ ∀ t ∈ f.rest, isSpace t.1 = true ∧ Blank t.2.1 ∧ IsName t.2.2

/-- `lead field (blank , blank field)* (blank ,)? trail` -/
structure Layout where
  lead : Str
  first : Field
  rest : List (Str × Str × Field)
  tcomma : Option Str
  trail : Str

def midOf (first : Field) (rest : List (Str × Str × Field)) : Str :=
  first.core ++ rest.flatMap (fun t => t.1 ++ ',' :: (t.2.1 ++ t.2.2.core))

def Layout.render (p : Layout) : Str :=
  p.lead ++ midOf p.first p.rest ++ (match p.tcomma with | none => [] | some w => w ++ [',']) ++ p.trail

def Layout.names (p : Layout) : List Str := p.first.names ++ p.rest.flatMap (·.2.2.names)

def Layout.WF (p : Layout) : Prop :=
  Blank p.lead ∧ p.first.WF ∧ (∀ t ∈ p.rest, Blank t.1 ∧ Blank t.2.1 ∧ t.2.2.WF) ∧
  (∀ w, p.tcomma = some w → Blank w) ∧ Blank p.trail

/-! ### ends of strings -/

def StartsName (m : Str) : Prop := ∃ c s, m = c :: s ∧ isSpace c = false
def EndsName (m : Str) : Prop := ∃ s c, m = s ++ [c] ∧ isSpace c = false ∧ c ≠ ','

theorem IsName.starts {n : Str} (h : IsName n) (x : Str) : StartsName (n ++ x) := by
  obtain ⟨hne, hc⟩ := h
  cases n with
  | nil => exact absurd rfl hne
  | cons c cs => exact ⟨c, cs ++ x, rfl, (hc c (by simp)).1⟩

theorem IsName.ends {n : Str} (h : IsName n) : EndsName n :=
  have hc := h.2 _ (List.getLast_mem h.1)
  ⟨n.dropLast, n.getLast h.1, (List.dropLast_concat_getLast h.1).symm, hc.1, hc.2.1⟩

theorem EndsName.prepend {m : Str} (h : EndsName m) (x : Str) : EndsName (x ++ m) := by
  obtain ⟨s, c, rfl, hc⟩ := h
  exact ⟨x ++ s, c, (List.append_assoc x s [c]).symm, hc⟩

theorem EndsName.no_blank {m : Str} (h : EndsName m) : ∃ s c, m = s ++ [c] ∧ isSpace c = false := by
  obtain ⟨s, c, hm, hc, _⟩ := h
  exact ⟨s, c, hm, hc⟩

theorem EndsName.flatMap {α : Type} {a : Str} (ha : EndsName a) (l : List α) (g : α → Str)
    (hg : ∀ t ∈ l, EndsName (g t)) : EndsName (a ++ l.flatMap g) := by
  induction l generalizing a with
  | nil => simpa using ha
  | cons t ts ih =>
    obtain ⟨ht, hts⟩ := List.forall_mem_cons.mp hg
    rw [List.flatMap_cons, ← List.append_assoc]
    exact ih (ht.prepend a) hts

theorem Blank.not_mem {w : Str} (h : Blank w) {x : Char} (hx : isSpace x = false) : x ∉ w :=
  fun hm => by rw [h x hm] at hx; cases hx

theorem blank_nil : Blank [] := fun _ hc => nomatch hc

/-! ### one field -/

theorem Field.core_cons (a : Str) (t : Char × Str × Str) (ts : List (Char × Str × Str)) :
    Field.core ⟨a, t :: ts⟩ = a ++ t.1 :: (t.2.1 ++ Field.core ⟨t.2.2, ts⟩) := by
  simp [Field.core]

theorem Field.WF_cons {a : Str} {t : Char × Str × Str} {ts : List (Char × Str × Str)}
    (h : Field.WF ⟨a, t :: ts⟩) :
    IsName a ∧ isSpace t.1 = true ∧ Blank t.2.1 ∧ Field.WF ⟨t.2.2, ts⟩ :=
  have ht := h.2 t (by simp)
  ⟨h.1, ht.1, ht.2.1, ht.2.2, fun x hx => h.2 x (by simp [hx])⟩

theorem Field.core_starts (f : Field) (h : f.WF) : StartsName f.core := h.1.starts _

theorem Field.core_ends (f : Field) (h : f.WF) : EndsName f.core :=
  h.1.ends.flatMap _ _ fun t ht => ((h.2 t ht).2.2.ends.prepend t.2.1).prepend [t.1]

/-- neither of the two characters that matter to the tokenising stage occurs in a field -/
theorem Field.core_chars (f : Field) (h : f.WF) (x : Char) (hx : x ∈ f.core) : x ≠ ',' ∧ x ≠ '\\' := by
  have hsp : ∀ w : Str, Blank w → x ∈ w → x ≠ ',' ∧ x ≠ '\\' := fun w hw hm =>
    ⟨fun e => hw.not_mem (by rw [e]; rfl) hm, fun e => hw.not_mem (by rw [e]; rfl) hm⟩
  simp only [Field.core, List.mem_append, List.mem_flatMap, List.mem_cons] at hx
  rcases hx with hx | ⟨t, ht, hx | hx | hx⟩
  · exact (h.1.2 x hx).2
  · exact hsp [t.1] (by simpa [Blank] using (h.2 t ht).1) (by simp [hx])
  · exact hsp _ (h.2 t ht).2.1 hx
  · exact ((h.2 t ht).2.2.2 x hx).2

theorem Field.splitWs_core (f : Field) (h : f.WF) : splitWs f.core = f.names := by
  obtain ⟨first, rest⟩ := f
  induction rest generalizing first with
  | nil =>
    simpa [Field.core, Field.names, splitWs] using
      splitWs_word_append first [] (fun c hc => (h.1.2 c hc).1) h.1.1 (by simp)
  | cons t ts ih =>
    obtain ⟨h1, ht, hw, hrest⟩ := Field.WF_cons h
    rw [Field.core_cons,
      splitWs_word_append first _ (fun c hc => (h1.2 c hc).1) h1.1 (by simpa using ht),
      ← List.cons_append,
      splitWs_ws_append (t.1 :: t.2.1) _ (by simpa [Blank, ht] using hw), ih _ hrest]
    rfl

/-! ### the comma level -/

theorem midOf_cons (f : Field) (t : Str × Str × Field) (ts : List (Str × Str × Field)) :
    midOf f (t :: ts) = f.core ++ (t.1 ++ ',' :: (t.2.1 ++ midOf t.2.2 ts)) := by
  simp [midOf]

theorem mid_starts (first : Field) (rest : List (Str × Str × Field)) (h : first.WF) :
    StartsName (midOf first rest) := by
  obtain ⟨c, s, hs, hc⟩ := first.core_starts h
  exact ⟨c, s ++ rest.flatMap (fun t => t.1 ++ ',' :: (t.2.1 ++ t.2.2.core)), by simp [midOf, hs], hc⟩

theorem mid_ends (first : Field) (rest : List (Str × Str × Field)) (h : first.WF)
    (hr : ∀ t ∈ rest, Blank t.1 ∧ Blank t.2.1 ∧ t.2.2.WF) : EndsName (midOf first rest) :=
  (first.core_ends h).flatMap _ _ fun t ht =>
    (((t.2.2.core_ends (hr t ht).2.2).prepend t.2.1).prepend [',']).prepend t.1

theorem split_mid (r : Str) (first : Field) (rest : List (Str × Str × Field)) (hr0 : Blank r)
    (h : first.WF) (hr : ∀ t ∈ rest, Blank t.1 ∧ Blank t.2.1 ∧ t.2.2.WF) :
    (splitOn ',' (r ++ midOf first rest)).map strip
      = first.core :: rest.map (·.2.2.core) := by
  have hcomma : ∀ (r : Str) (f : Field) (w : Str), Blank r → f.WF → Blank w → ',' ∉ r ++ f.core ++ w := by
    intro r f w hr hf hw hm
    simp only [List.mem_append] at hm
    rcases hm with (hm | hm) | hm
    · exact hr.not_mem rfl hm
    · exact (f.core_chars hf _ hm).1 rfl
    · exact hw.not_mem rfl hm
  induction rest generalizing first r with
  | nil =>
    have := hcomma r first [] hr0 h blank_nil
    rw [List.append_nil] at this
    simpa [midOf, splitOn_no_sep _ _ this] using
      strip_pad r [] first.core hr0 blank_nil (first.core_starts h) (first.core_ends h).no_blank
  | cons t ts ih =>
    obtain ⟨ht, hr'⟩ := List.forall_mem_cons.mp hr
    rw [midOf_cons, ← List.append_assoc, ← List.append_assoc,
      splitOn_append_sep _ _ _ (hcomma r first t.1 hr0 h ht.1), List.map_cons,
      strip_pad r t.1 first.core hr0 ht.1 (first.core_starts h) (first.core_ends h).no_blank,
      ih t.2.1 t.2.2 ht.2.1 ht.2.2 hr']
    rfl

theorem body_render (p : Layout) (h : p.WF) :
    body p.render = (midOf p.first p.rest, p.tcomma.isSome) := by
  obtain ⟨hl, hf, hr, htc, htr⟩ := h
  have hs := mid_starts p.first p.rest hf
  have he := mid_ends p.first p.rest hf hr
  unfold body Layout.render
  cases htcm : p.tcomma with
  | none =>
    obtain ⟨s, c, hm, hc, hcomma⟩ := he
    rw [List.append_nil, strip_pad p.lead p.trail _ hl htr hs ⟨s, c, hm, hc⟩]
    simp [hm, hcomma]
  | some w =>
    have hstrip : strip (p.lead ++ midOf p.first p.rest ++ (w ++ [',']) ++ p.trail)
        = (midOf p.first p.rest ++ w) ++ [','] := by
      obtain ⟨d, ds, hd, hdn⟩ := hs
      rw [List.append_assoc p.lead, ← List.append_assoc _ w]
      exact strip_pad p.lead p.trail _ hl htr ⟨d, ds ++ w ++ [','], by simp [hd], hdn⟩ ⟨_, ',', rfl, rfl⟩
    rw [hstrip]
    simp [rstrip_pad _ w (htc w htcm) he.no_blank]

theorem render_no_backslash (p : Layout) (h : p.WF) : '\\' ∉ p.render := by
  obtain ⟨hl, hf, hr, htc, htr⟩ := h
  intro hm
  simp only [Layout.render, midOf, List.mem_append, List.mem_flatMap, List.mem_cons] at hm
  rcases hm with ((hm | hm | ⟨t, ht, hm | hm | hm | hm⟩) | hm) | hm
  · exact hl.not_mem rfl hm
  · exact (p.first.core_chars hf _ hm).2 rfl
  · exact (hr t ht).1.not_mem rfl hm
  · cases hm
  · exact (hr t ht).2.1.not_mem rfl hm
  · exact (t.2.2.core_chars (hr t ht).2.2 _ hm).2 rfl
  · cases htcm : p.tcomma with
    | none => simp [htcm] at hm
    | some w =>
      simp only [htcm, List.mem_append, List.mem_singleton] at hm
      rcases hm with hm | hm
      · exact (htc w htcm).not_mem rfl hm
      · cases hm
  · exact htr.not_mem rfl hm

/-- tokenising stage: when the escape stage leaves the text of a well-formed layout, the loop
    runs over exactly the names of the layout, with `seq` preset by the trailing comma unless
    given explicitly. -/
theorem expandStr_tokens (s : Str) (p : Layout) (h : p.WF) (hs : (escapeAll s).names = p.render)
    (seq : SeqArg) :
    expandStr seq s =
      match seq with
      | .bad => .error .seqType
      | seq =>
        match expandNames (escapeAll s).lits p.names with
        | .error e => .error e
        | .ok (result, s) =>
            .ok (finish ((match seq with | .some b => b | _ => p.tcomma.isSome) || s) result) := by
  have hb := body_render p h
  obtain ⟨hl, hf, hr, htc, htr⟩ := h
  have hsplit := split_mid [] p.first p.rest blank_nil hf hr
  have hne : (midOf p.first p.rest).isEmpty = false := by
    obtain ⟨c, s, hm, _⟩ := mid_starts p.first p.rest hf
    rw [hm]; rfl
  have hany : (p.first.core :: p.rest.map (·.2.2.core)).any (·.isEmpty) = false := by
    have hcore : ∀ f : Field, f.WF → f.core ≠ [] := by
      intro f hf he
      obtain ⟨c, s, hm, _⟩ := f.core_starts hf
      rw [hm] at he; cases he
    simpa [hcore _ hf] using fun t ht => hcore _ (hr t ht).2.2
  have hnames : (p.first.core :: p.rest.map (·.2.2.core)).flatMap splitWs = p.names := by
    rw [List.flatMap_cons, p.first.splitWs_core hf, List.flatMap_def, List.map_map,
      List.map_congr_left fun t ht => t.2.2.splitWs_core (hr t ht).2.2]
    rfl
  unfold expandStr
  -- the escape stage is made opaque before anything is rewritten: left as `escapeAll s`, the
  -- unifier unfolds the marker loop when it compares the two sides
  generalize escapeAll s = st at hs ⊢
  rw [List.nil_append] at hsplit
  simp only [hs, hb, hne, hsplit, hany, hnames, Bool.false_eq_true, if_false]
  cases seq with
  | bad => rfl
  | none => cases expandNames st.lits p.names <;> rfl
  | some b => cases expandNames st.lits p.names <;> rfl

end Sympde.Pat

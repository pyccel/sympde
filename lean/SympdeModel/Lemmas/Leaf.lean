/-
  The comparison behind the generated index of leaf formulas (Gen/LeafThms.lean).  The classical
  component definitions of the vector-calculus operators (`denG`, Sem/DenG.lean) are written out as
  formulas over the components of a placeholder argument (`op1F`, `op2F`); a component formula of
  the leaf table is accepted (`leafOK`) when `RingEq.ringEq` finds it equal to that rendering, and
  an accepted formula has the classical meaning in every differential ring (`leafOK_sound`).
-/
import SympdeModel.Lemmas.Lower
import SympdeModel.Lemmas.RingEq
namespace Sympde
open E
open DRing (sumN)

variable {K : Type} [CommRing K] [Algebra ℚ K]

@[simp] theorem algebraMap_int_div_one (n : Int) :
    algebraMap ℚ K ((n : ℚ) / ((1 : ℕ) : ℚ)) = (n : K) := by simp

namespace LeafCheck
open Lower (FS FSList FSList_mem)

/-! ### components -/

/-- the `(i, j)` component of a matrix of scalar formulas; a scalar formula is its own component -/
def comp : E → Nat → Nat → E
  | mat r c es, i, j => if i < r ∧ j < c then es.getD (i * c + j) zero else zero
  | e, _, _ => e

theorem denGNth_getD (S : DRing K) (d : Nat) (lg : Bool) (l : List E) (n : Nat) :
    denGNth S d lg l n = denG S d lg (l.getD n zero) 0 0 := by
  induction l generalizing n with
  | nil => simp [denGNth, zero, denG]
  | cons x l ih =>
    cases n with
    | zero => simp [denGNth]
    | succ n => simpa [denGNth] using ih n

theorem denG_zero (S : DRing K) (d : Nat) (lg : Bool) (i j : Nat) : denG S d lg zero i j = 0 := by
  simp [zero, denG]

/-- a placeholder argument: an atom or a matrix -/
def isArg : E → Bool
  | sf _ _ => true
  | mat _ _ _ => true
  | _ => false

theorem denG_comp_arg (S : DRing K) (d : Nat) (lg : Bool) (P : E) (h : isArg P = true) (i j : Nat) :
    denG S d lg P i j = denG S d lg (comp P i j) 0 0 := by
  cases P <;> first | rfl | exact absurd h Bool.false_ne_true | skip
  simp only [denG, comp]
  split
  · exact denGNth_getD S d lg _ _
  · exact (denG_zero S d lg 0 0).symm

theorem den_FS (S : DRing K) (d : Nat) (lg : Bool) (e : E) (h : FS e = true) (i j : Nat) :
    den S e i j = denG S d lg e 0 0 := by
  induction e using E.rec
    (motive_2 := fun as => FSList as = true →
      denSum S as i j = denGSum S d lg as 0 0 ∧ denProd S as i j = denGProd S d lg as 0 0) with
  | num p q => rfl
  | sf n k => rfl
  | pd c a ih => simp only [den, denG]; rw [ih h]
  | add as ih => exact (ih h).1
  | mul as ih => exact (ih h).2
  | nil => exact ⟨rfl, rfl⟩
  | cons a as iha ihas =>
    rename_i h
    simp only [FSList, Bool.and_eq_true] at h
    simp only [denSum, denGSum, denProd, denGProd, iha h.1, (ihas h.2).1, (ihas h.2).2, and_self]
  | _ => simp [FS] at h

/-- a leaf formula: a scalar formula or a matrix of scalar formulas -/
def isFormula : E → Bool
  | mat _ _ es => FSList es
  | e => FS e

theorem getD_FS (es : List E) (h : FSList es = true) (n : Nat) : FS (es.getD n zero) = true := by
  induction es generalizing n with
  | nil => rfl
  | cons x es ih =>
    simp only [FSList, Bool.and_eq_true] at h
    cases n with
    | zero => exact h.1
    | succ n => exact ih h.2 n

theorem den_comp (S : DRing K) (d : Nat) (lg : Bool) (F : E) (h : isFormula F = true) (i j : Nat) :
    den S F i j = denG S d lg (comp F i j) 0 0 := by
  unfold isFormula at h
  split at h
  · rename_i r c es
    simp only [den, comp]
    split
    · rw [denNth_getD]; exact den_FS S d lg _ (getD_FS es h _) 0 0
    · exact (denG_zero S d lg 0 0).symm
  · rename_i hm
    have : comp F i j = F := by
      unfold comp
      split
      · exact absurd rfl (hm _ _ _)
      · rfl
    rw [this]
    exact den_FS S d lg F h i j

/-! ### the classical operators, written out on components -/

theorem denGSum_append (S : DRing K) (d : Nat) (lg : Bool) (xs ys : List E) (i j : Nat) :
    denGSum S d lg (xs ++ ys) i j = denGSum S d lg xs i j + denGSum S d lg ys i j := by
  induction xs with
  | nil => simp [denGSum]
  | cons x xs ih => simp [denGSum, ih, add_assoc]

/-- the formula `Σ_{k<n} f k` -/
def sumF (n : Nat) (f : Nat → E) : E := add ((List.range n).map f)

theorem denG_sumF (S : DRing K) (d : Nat) (lg : Bool) (n : Nat) (f : Nat → E) (i j : Nat) :
    denG S d lg (sumF n f) i j = sumN n (fun k => denG S d lg (f k) i j) := by
  simp only [sumF, denG]
  induction n with
  | zero => rfl
  | succ n ih =>
    rw [List.range_succ, List.map_append, denGSum_append, ih]
    simp only [List.map, denGSum, sumN, add_zero]

theorem denG_sub (S : DRing K) (d : Nat) (lg : Bool) (a b : E) (i j : Nat) :
    denG S d lg (sub a b) i j = denG S d lg a i j - denG S d lg b i j := by
  simp [sub, neg, denG, denGSum, denGProd]; ring

theorem denG_neg (S : DRing K) (d : Nat) (lg : Bool) (a : E) (i j : Nat) :
    denG S d lg (neg a) i j = - denG S d lg a i j := by
  simp [neg, denG, denGProd]

theorem denG_mul2 (S : DRing K) (d : Nat) (lg : Bool) (a b : E) (i j : Nat) :
    denG S d lg (mul [a, b]) i j = denG S d lg a i j * denG S d lg b i j := by
  simp [denG, denGProd]

/-- the `k`-th derivation of the chosen family, as a node -/
def dF (lg : Bool) (k : Nat) (e : E) : E := pd (Coord.ofIdx lg k) e

theorem denG_dF (S : DRing K) (d : Nat) (lg : Bool) (k : Nat) (e : E) (i j : Nat) :
    denG S d lg (dF lg k e) i j = Di S lg k (denG S d lg e i j) := rfl

/-- the `(i, j)` component of `op1 o P` as a formula in the components of `P` (mixed second
    derivatives are written with the smaller index outside, as the leaf classes do) -/
def op1F (d : Nat) (lg : Bool) (o : Op1) (P : E) (i j : Nat) : E :=
  match o with
  | .grad => if rank d P = 0 then dF lg i (comp P 0 0) else dF lg i (comp P j 0)
  | .div =>
      if rank d P = 1 then sumF d (fun k => dF lg k (comp P k 0))
      else sumF d (fun k => dF lg k (comp P k i))
  | .curl =>
      if d = 3 then
        (match i with
         | 0 => sub (dF lg 1 (comp P 2 0)) (dF lg 2 (comp P 1 0))
         | 1 => sub (dF lg 2 (comp P 0 0)) (dF lg 0 (comp P 2 0))
         | _ => sub (dF lg 0 (comp P 1 0)) (dF lg 1 (comp P 0 0)))
      else sub (dF lg 0 (comp P 1 0)) (dF lg 1 (comp P 0 0))
  | .rot =>
      (match i with
       | 0 => dF lg 1 (comp P 0 0)
       | _ => neg (dF lg 0 (comp P 0 0)))
  | .laplace => sumF d (fun k => dF lg k (dF lg k (comp P i j)))
  | .hessian => dF lg (min i j) (dF lg (max i j) (comp P 0 0))
  | _ => zero

/-- the `(i, j)` component of `op2 o P Q` as a formula in the components of `P` and `Q` -/
def op2F (d : Nat) (lg : Bool) (o : Op2) (P Q : E) (i j : Nat) : E :=
  match o with
  | .dot =>
      if rank d P = 2 then sumF d (fun k => mul [comp P i k, comp Q k 0])
      else if rank d Q = 2 then sumF d (fun k => mul [comp Q i k, comp P k 0])
      else sumF d (fun k => mul [comp P k 0, comp Q k 0])
  | .cross =>
      if d = 3 then
        (match i with
         | 0 => sub (mul [comp P 1 0, comp Q 2 0]) (mul [comp P 2 0, comp Q 1 0])
         | 1 => sub (mul [comp P 2 0, comp Q 0 0]) (mul [comp P 0 0, comp Q 2 0])
         | _ => sub (mul [comp P 0 0, comp Q 1 0]) (mul [comp P 1 0, comp Q 0 0]))
      else sub (mul [comp P 0 0, comp Q 1 0]) (mul [comp P 1 0, comp Q 0 0])
  | .inner =>
      if rank d P = 2 then sumF d (fun k => sumF d (fun l => mul [comp P k l, comp Q k l]))
      else sumF d (fun k => mul [comp P k 0, comp Q k 0])
  | .outer => mul [comp P i 0, comp Q j 0]
  | .convect => sumF d (fun k => mul [comp P k 0, dF lg k (comp Q i 0)])
  | .bracket =>
      sub (mul [dF lg 0 (comp P 0 0), dF lg 1 (comp Q 0 0)])
        (mul [dF lg 1 (comp P 0 0), dF lg 0 (comp Q 0 0)])

theorem denG_op1F (S : DRing K) (d : Nat) (lg : Bool) (o : Op1) (P : E) (hP : isArg P = true)
    (i j : Nat) : denG S d lg (op1 o P) i j = denG S d lg (op1F d lg o P i j) 0 0 := by
  have c := denG_comp_arg S d lg P hP
  cases o <;> simp only [denG, op1F]
  · split <;> simp only [denG_dF, ← c]
  · rcases i with _ | _ | i <;> split <;> simp only [denG_sub, denG_dF, ← c]
  · rcases i with _ | i <;> simp only [denG_neg, denG_dF, ← c]
  · split <;> simp only [denG_sumF, denG_dF, ← c]
  · simp only [denG_sumF, denG_dF, ← c]
  · simp only [denG_dF, ← c]
    rcases Nat.le_total i j with h | h
    · rw [Nat.min_eq_left h, Nat.max_eq_right h]
    · rw [Nat.min_eq_right h, Nat.max_eq_left h]; exact S.D_comm _ _ _
  all_goals exact (denG_zero S d lg 0 0).symm

theorem denG_op2F (S : DRing K) (d : Nat) (lg : Bool) (o : Op2) (P Q : E) (hP : isArg P = true)
    (hQ : isArg Q = true) (i j : Nat) :
    denG S d lg (op2 o P Q) i j = denG S d lg (op2F d lg o P Q i j) 0 0 := by
  have cP := denG_comp_arg S d lg P hP
  have cQ := denG_comp_arg S d lg Q hQ
  cases o <;> simp only [denG, op2F]
  · split_ifs <;> simp only [denG_sumF, denG_mul2, ← cP, ← cQ]
  · rcases i with _ | _ | i <;> split <;> simp only [denG_sub, denG_mul2, ← cP, ← cQ]
  · split <;> simp only [denG_sumF, denG_mul2, ← cP, ← cQ]
  · simp only [denGProd, mul_one, ← cP, ← cQ]
  · simp only [denG_sumF, denG_mul2, denG_dF, ← cP, ← cQ]
  · simp only [denG_sub, denG_mul2, denG_dF, ← cP, ← cQ]

/-! ### the test -/

/-- the `(i, j)` component of a generic node applied to placeholder arguments, as a formula -/
def nodeF (d : Nat) (lg : Bool) : E → Nat → Nat → Option E
  | op1 o P, i, j => if isArg P then some (op1F d lg o P i j) else none
  | op2 o P Q, i, j => if isArg P && isArg Q then some (op2F d lg o P Q i j) else none
  | _, _, _ => none

theorem denG_nodeF (S : DRing K) (d : Nat) (lg : Bool) (node s : E) (i j : Nat)
    (h : nodeF d lg node i j = some s) : denG S d lg node i j = denG S d lg s 0 0 := by
  unfold nodeF at h
  split at h
  · split at h
    · cases h; exact denG_op1F S d lg _ _ ‹_› i j
    · cases h
  · split at h
    · rename_i hPQ
      rw [Bool.and_eq_true] at hPQ
      cases h; exact denG_op2F S d lg _ _ _ hPQ.1 hPQ.2 i j
    · cases h
  · cases h

/-- every one of the `ri × rj` components of the formula `F` is equal, modulo the commutative-ring
    axioms, to the classical component of `node` -/
def leafOK (d : Nat) (lg : Bool) (node F : E) (ri rj : Nat) : Bool :=
  isFormula F && (List.range ri).all (fun i => (List.range rj).all (fun j =>
    match nodeF d lg node i j with
    | some s => RingEq.ringEq d (comp F i j) s
    | none => false))

theorem leafOK_sound (S : DRing K) (d : Nat) (lg : Bool) (node F : E) (ri rj : Nat)
    (h : leafOK d lg node F ri rj = true) (i j : Nat) (hi : i < ri) (hj : j < rj) :
    den S F i j = denG S d lg node i j := by
  simp only [leafOK, Bool.and_eq_true, List.all_eq_true, List.mem_range] at h
  have hij := h.2 i hi j hj
  split at hij
  · rename_i s hs
    rw [den_comp S d lg F h.1 i j, denG_nodeF S d lg node s i j hs]
    exact RingEq.ringEq_sound S d lg _ _ hij
  · cases hij

end LeafCheck
end Sympde

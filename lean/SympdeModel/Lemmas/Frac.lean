/-
  Soundness of `Frac.asFrac` (C16): `den e * den d = den n` and `den d * den di = 1`, under the
  side condition `NonDeg` (the bases of negative integer powers are invertible).
-/
import SympdeModel.Lemmas.PDeriv
import SympdeModel.Model.Frac
namespace Sympde
open E PD

variable {K : Type} [CommRing K] [Algebra ℚ K]

theorem den_add2 (S : DRing K) (a b : E) (i j : Nat) : den S (add [a, b]) i j = den S a i j + den S b i j := by
  simp [den, denSum]

theorem den_mul2 (S : DRing K) (a b : E) (i j : Nat) : den S (mul [a, b]) i j = den S a i j * den S b i j := by
  simp [den, denProd]

namespace Frac

theorem isOne_den (S : DRing K) (a : E) (h : isOne a = true) (i j : Nat) : den S a i j = 1 := by
  unfold isOne at h
  split at h
  · simp [den]
  · cases h

theorem den_powN (S : DRing K) (a : E) (k i j : Nat) : den S (powN a k) i j = den S a i j ^ k := by
  unfold powN
  split
  · rename_i h; rw [isOne_den S a h, den_one, one_pow]
  · split
    · rename_i h; simp at h; subst h; simp
    · simp [den, powSem, intLit]

theorem den_invE (S : DRing K) (a : E) (i j : Nat) : den S (invE a) i j = S.inv (den S a i j) := by
  simp [invE, den, powSem_neg_one]

theorem den_mulS (S : DRing K) (a b : E) (i j : Nat) : den S (mulS a b) i j = den S a i j * den S b i j := by
  unfold mulS
  split
  · rename_i h; rw [isOne_den S a h, one_mul]
  · split
    · rename_i h; rw [isOne_den S b h, mul_one]
    · exact den_mul2 S a b i j

theorem polyLike_nonDeg (S : DRing K) (e : E) (h : polyLike e = true) : NonDeg S e := by
  induction e using E.rec (motive_2 := fun as => polyLikeList as = true → NonDegList S as) with
  | add as ih => simp only [polyLike] at h; simpa [NonDeg] using ih h
  | mul as ih => simp only [polyLike] at h; simpa [NonDeg] using ih h
  | pow b e ihb _ =>
    simp only [polyLike, Bool.and_eq_true] at h
    simp only [NonDeg]
    cases hl : intLit e with
    | none => rw [hl] at h; simp at h
    | some n =>
      rw [hl] at h
      cases n with
      | ofNat k => exact ⟨trivial, ihb h.2, by
          -- an integer literal has no powers inside
          cases e <;> simp [intLit] at hl
          rename_i p q
          split at hl <;> simp_all [NonDeg]⟩
      | negSucc k => simp at h
  | fn f a iha => simp only [polyLike] at h; simpa [NonDeg] using iha h
  | mat r c es ih => simp only [polyLike] at h; simpa [NonDeg] using ih h
  | nil => trivial
  | cons a as iha ihas =>
    rename_i h
    simp only [polyLikeList, Bool.and_eq_true] at h
    exact ⟨iha h.1, ihas h.2⟩
  | _ => first | (simp [NonDeg]; done) | (simp [polyLike] at h)

/-- the value `v` is the fraction `f` -/
def IsFrac (S : DRing K) (v : K) (f : Fr) (i j : Nat) : Prop :=
  v * den S f.d i j = den S f.n i j ∧ den S f.d i j * den S f.di i j = 1

theorem asFrac_sound (S : DRing K) (e : E) (h : NonDeg S e) :
    ∀ i j, IsFrac S (den S e i j) (asFrac e) i j := by
  induction e using E.rec
    (motive_2 := fun as => NonDegList S as →
      ∀ i j, IsFrac S (denSum S as i j) (asFracSum as) i j ∧ IsFrac S (denProd S as i j) (asFracProd as) i j) with
  | num p q =>
    intro i j
    simp only [asFrac]
    split
    · simp [IsFrac, den_one]
    · rename_i hq
      simp only [Bool.or_eq_true, beq_iff_eq, not_or] at hq
      have hq0 : (q : ℚ) ≠ 0 := by exact_mod_cast hq.1
      simp only [IsFrac, den, ← map_mul]
      constructor
      · congr 1
        simp only [Int.ofNat_eq_natCast, Int.cast_natCast, Nat.cast_one, div_one]
        exact div_mul_cancel₀ _ hq0
      · rw [← map_one (algebraMap ℚ K)]; congr 1
        simp only [Int.ofNat_eq_natCast, Int.cast_natCast, Nat.cast_one, div_one, Int.cast_one, one_div]
        exact mul_inv_cancel₀ hq0
  | add as ih => intro i j; simp only [asFrac, den]; exact (ih (by simpa [NonDeg] using h) i j).1
  | mul as ih => intro i j; simp only [asFrac, den]; exact (ih (by simpa [NonDeg] using h) i j).2
  | pow b e ihb _ =>
    intro i j
    simp only [NonDeg] at h
    obtain ⟨hb1, hb2⟩ := ihb h.2.1 i j
    simp only [asFrac]
    cases hl : intLit e with
    | none => simp [IsFrac, den_one]
    | some n =>
      simp only
      cases n with
      | ofNat k =>
        have hlt : ¬ (Int.ofNat k < 0) := by simp
        rw [if_neg hlt]
        simp only [IsFrac, den_powN, Int.natAbs_natCast, Int.ofNat_eq_natCast]
        have hd : den S (pow b e) i j = den S b i j ^ k := by simp [den, powSem, hl]
        rw [hd, ← mul_pow, ← mul_pow, hb1, hb2, one_pow]
        exact ⟨rfl, rfl⟩
      | negSucc k =>
        have hinv : den S b i j * S.inv (den S b i j) = 1 := by
          have := h.1; rw [hl] at this; exact this i j
        have hlt : Int.negSucc k < 0 := Int.negSucc_lt_zero k
        rw [if_pos hlt]
        simp only [IsFrac, den_powN, den_mulS, den_invE, Int.natAbs_negSucc]
        have hd : den S (pow b e) i j = S.inv (den S b i j) ^ (k + 1) := by simp [den, powSem, hl]
        rw [hd, ← mul_pow, ← mul_pow]
        constructor
        · congr 1
          linear_combination (-(S.inv (den S b i j))) * hb1 + (den S (asFrac b).d i j) * hinv
        · have : den S (asFrac b).n i j * (S.inv (den S b i j) * den S (asFrac b).di i j) = 1 := by
            linear_combination (S.inv (den S b i j) * den S (asFrac b).di i j) * (-hb1)
              + (den S (asFrac b).d i j * den S (asFrac b).di i j) * hinv + hb2
          rw [this, one_pow]
  | nil => rename_i i j; simp [asFracSum, asFracProd, IsFrac, denSum, denProd, den_zero, den_one]
  | cons a as iha ihas =>
    rename_i hnd i j
    simp only [NonDegList] at hnd
    obtain ⟨ha1, ha2⟩ := iha hnd.1 i j
    obtain ⟨⟨hs1, hs2⟩, ⟨hp1, hp2⟩⟩ := ihas hnd.2 i j
    constructor
    · cases as with
      | nil => simpa [asFracSum, denSum, IsFrac] using And.intro ha1 ha2
      | cons a' as' =>
        simp only [asFracSum, IsFrac, den_mulS, den_add2] at hs1 hs2 ⊢
        simp only [denSum] at hs1 ⊢
        refine ⟨?_, ?_⟩
        · linear_combination (den S (asFracSum (a' :: as')).d i j) * ha1 + (den S (asFrac a).d i j) * hs1
        · linear_combination (den S (asFracSum (a' :: as')).d i j * den S (asFracSum (a' :: as')).di i j) * ha2 + hs2
    · simp only [asFracProd, IsFrac, denProd, den_mulS]
      refine ⟨?_, ?_⟩
      · linear_combination (denProd S as i j * den S (asFracProd as).d i j) * ha1 + (den S (asFrac a).n i j) * hp1
      · linear_combination (den S (asFracProd as).d i j * den S (asFracProd as).di i j) * ha2 + hp2
  | _ => intro i j; simp [asFrac, IsFrac, den_one]

end Frac
end Sympde

/-
  One name of a pattern.  The anchored matcher for `_range` on ranges as the user writes them
  (`Rng`) and where it cannot match; the grammar of well-formed items (`literal (range literal)*`,
  ranges optionally parenthesised) with their independent denotation (`Item.den`); and the proof
  that `expandName` computes it: the scanner recovers the pieces, the parenthesis pass removes
  exactly the parentheses of parenthesised ranges, every range piece enumerates its range, and the
  product concatenates.
-/
import SympdeModel.Lemmas.PatternStr
namespace Sympde.Pat

/-! ### character classes -/

theorem colon_not_digit : isDigit ':' = false := by decide

theorem digit_ne_colon {c : Char} (h : isDigit c = true) : c ≠ ':' := by
  intro e; subst e; cases h

theorem alpha_ne_colon {c : Char} (h : isAlpha c = true) : c ≠ ':' := by
  intro e; subst e; cases h

theorem alpha_not_digit {c : Char} (h : isAlpha c = true) : isDigit c = false := by
  simp only [isAlpha, isDigit, Bool.or_eq_true, Bool.and_eq_true, Bool.and_eq_false_iff,
    decide_eq_true_eq, decide_eq_false_iff_not] at h ⊢
  omega

theorem digit_not_alpha {c : Char} (h : isDigit c = true) : isAlpha c = false := by
  cases ha : isAlpha c with
  | false => rfl
  | true => rw [alpha_not_digit ha] at h; cases h

theorem digit_not_space {c : Char} (h : isDigit c = true) : isSpace c = false := by
  simp only [isDigit, isSpace, Bool.and_eq_true, Bool.or_eq_false_iff, Bool.and_eq_false_iff,
    decide_eq_true_eq, decide_eq_false_iff_not, beq_eq_false_iff_ne] at h ⊢
  omega

/-! ### ranges -/

/-- a range as written: `a:b` with digit strings (`a` possibly empty), or `x:y` / `:y` with letters -/
inductive Rng where
  | num (a b : Str)
  | alpha (a : Option Char) (b : Char)
  deriving Repr

def Rng.render : Rng → Str
  | .num a b => a ++ ':' :: b
  | .alpha none b => [':', b]
  | .alpha (some a) b => [a, ':', b]

def Rng.WF : Rng → Prop
  | .num a b => (∀ c ∈ a, isDigit c = true) ∧ (∀ c ∈ b, isDigit c = true) ∧ b ≠ []
  | .alpha a b => (∀ c, a = some c → isAlpha c = true) ∧ isAlpha b = true

def NoDigitHead (s : Str) : Prop := ∀ c, s.head? = some c → isDigit c = false

theorem takeWhile_digits (b rest : Str) (hb : ∀ c ∈ b, isDigit c = true) (hr : NoDigitHead rest) :
    (b ++ rest).takeWhile isDigit = b ∧ (b ++ rest).dropWhile isDigit = rest := by
  rw [List.takeWhile_append_of_pos hb, List.dropWhile_append_of_pos hb]
  cases rest with
  | nil => simp
  | cons c cs => simp [hr c rfl]

/-! ### the two alternatives, by what follows the leading digits / the first character -/

theorem matchNum_colon (ds r : Str) (hds : ∀ c ∈ ds, isDigit c = true) :
    matchNum (ds ++ ':' :: r) =
      if (r.takeWhile isDigit).isEmpty then none
      else some (ds ++ ':' :: r.takeWhile isDigit, r.dropWhile isDigit) := by
  have h := takeWhile_digits ds (':' :: r) hds (by intro c hc; cases hc; rfl)
  unfold matchNum
  rw [h.1, h.2]
  rfl

theorem matchNum_none_of (ds : Str) (x : Char) (t : Str) (hds : ∀ c ∈ ds, isDigit c = true)
    (hx : isDigit x = false) (hxc : x ≠ ':') : matchNum (ds ++ x :: t) = none := by
  have h := takeWhile_digits ds (x :: t) hds (by intro c hc; cases hc; exact hx)
  unfold matchNum
  rw [h.2]
  simp [hxc]

theorem matchNum_digits (ds : Str) (hds : ∀ c ∈ ds, isDigit c = true) : matchNum ds = none := by
  have h := takeWhile_digits ds [] hds (by intro c hc; cases hc)
  rw [List.append_nil] at h
  unfold matchNum
  rw [h.2]

theorem matchAlpha_two (c d : Char) (t : Str) (hc : c ≠ ':') (hd : d ≠ ':') :
    matchAlpha (c :: d :: t) = none := by
  simp [matchAlpha, hc, hd]

theorem matchAlpha_one (c : Char) : matchAlpha [c] = none := by
  simp [matchAlpha]

theorem matchAlpha_nil : matchAlpha [] = none := rfl

theorem matchAlpha_colon (c b : Char) (t : Str) (hc : c ≠ ':')
    (h : isAlpha c = false ∨ isAlpha b = false) : matchAlpha (c :: ':' :: b :: t) = none := by
  rw [matchAlpha.eq_2 c b t hc]
  rcases h with h | h <;> simp [h]

theorem matchAlpha_colon_end (c : Char) (hc : c ≠ ':') : matchAlpha [c, ':'] = none := by
  simp [matchAlpha, hc]

theorem matchRange_render (r : Rng) (rest : Str) (h : r.WF)
    (hrest : ∀ a b, r = .num a b → NoDigitHead rest) :
    matchRange (r.render ++ rest) = some (r.render, rest) := by
  unfold matchRange
  cases r with
  | num a b =>
    obtain ⟨ha, hb, hne⟩ := h
    have hb' := takeWhile_digits b rest hb (hrest a b rfl)
    rw [Rng.render, List.append_assoc, List.cons_append, matchNum_colon a _ ha, hb'.1, hb'.2]
    simp [hne]
  | alpha a b =>
    obtain ⟨ha, hb⟩ := h
    have hbd := alpha_not_digit hb
    cases a with
    | none =>
      have := matchNum_colon [] (b :: rest) (by simp)
      simp only [List.nil_append, List.takeWhile_cons_of_neg (by simp [hbd] : ¬ isDigit b = true)] at this
      simp [Rng.render, this, matchAlpha, hb]
    | some a =>
      have haa := ha a rfl
      have hac := alpha_ne_colon haa
      have := matchNum_none_of [] a (':' :: b :: rest) (by simp) (alpha_not_digit haa) hac
      rw [List.nil_append] at this
      simp [Rng.render, this, matchAlpha, haa, hb]

/-! ### where the matcher fails -/

theorem span_digits (s : Str) :
    (∀ c ∈ s, isDigit c = true) ∨
    ∃ ds x t, s = ds ++ x :: t ∧ (∀ c ∈ ds, isDigit c = true) ∧ isDigit x = false := by
  induction s with
  | nil => exact Or.inl (by simp)
  | cons c cs ih =>
    cases hc : isDigit c with
    | false => exact Or.inr ⟨[], c, cs, rfl, by simp, hc⟩
    | true =>
      rcases ih with h | ⟨ds, x, t, rfl, hds, hx⟩
      · exact Or.inl (by simpa [hc] using h)
      · exact Or.inr ⟨c :: ds, x, t, rfl, by simpa [hc] using hds, hx⟩

/-- no match starts inside a literal: `L` has no colon; what follows (`R`) cannot complete a
    numeric match begun by trailing digits of `L` (`hA`) nor an alphabetic match begun by the
    last character of `L` (`hB`). -/
theorem no_match_in (L R : Str) (hcolon : ':' ∉ L)
    (hA : ∀ pre ds, L = pre ++ ds → ds ≠ [] → (∀ c ∈ ds, isDigit c = true) → matchNum (ds ++ R) = none)
    (hB : ∀ pre c, L = pre ++ [c] → matchAlpha (c :: R) = none) :
    ∀ L1 c L2, L = L1 ++ c :: L2 → matchRange (c :: L2 ++ R) = none := by
  intro L1 c L2 hL
  have hcc : c ≠ ':' := by intro e; subst e; exact hcolon (by rw [hL]; simp)
  have hnum : matchNum (c :: L2 ++ R) = none := by
    rcases span_digits (c :: L2) with hall | ⟨ds, x, t, hs, hds, hx⟩
    · exact hA L1 (c :: L2) hL (by simp) hall
    · rw [hs, List.append_assoc, List.cons_append]
      apply matchNum_none_of ds x _ hds hx
      intro e; subst e
      exact hcolon (by rw [hL, hs]; simp)
  have halpha : matchAlpha (c :: L2 ++ R) = none := by
    cases L2 with
    | nil => exact hB L1 c hL
    | cons d L3 =>
      apply matchAlpha_two c d _ hcc
      intro e; subst e
      exact hcolon (by rw [hL]; simp)
  rw [matchRange, hnum]
  exact halpha

/-! ### the splitting loop -/

theorem rangeSplitAux_nil (n : Nat) : rangeSplitAux n [] = [[]] := by
  cases n <;> rfl

theorem rangeSplitAux_ne_nil (n : Nat) (s : Str) : rangeSplitAux n s ≠ [] := by
  fun_induction rangeSplitAux n s <;> simp_all

/-- scanning through a literal in which no match is possible: it is glued to the first piece
    of what follows -/
theorem scan_lit (L R p : Str) (ps : List Str) (n : Nat)
    (hno : ∀ L1 c L2, L = L1 ++ c :: L2 → matchRange (c :: L2 ++ R) = none)
    (h : rangeSplitAux n R = p :: ps) :
    rangeSplitAux (L.length + n) (L ++ R) = (L ++ p) :: ps := by
  induction L with
  | nil => simpa using h
  | cons c cs ih =>
    have ih' := ih (fun L1 c' L2 h => hno (c :: L1) c' L2 (by rw [h]; rfl))
    have hm := hno [] c cs rfl
    rw [show (c :: cs).length + n = (cs.length + n) + 1 by simp; omega]
    simp only [List.cons_append] at hm ⊢
    rw [rangeSplitAux, hm, ih']

theorem scan_match (s m rest : Str) (n : Nat) (hne : s ≠ [])
    (h : matchRange s = some (m, rest)) :
    rangeSplitAux (n + 1) s = [] :: m :: rangeSplitAux n rest := by
  cases s with
  | nil => exact absurd rfl hne
  | cons c cs => rw [rangeSplitAux, h]

/-! ### the grammar of one item -/

/-- a range, whether it is written in parentheses, and the literal text that follows it -/
structure Seg where
  r : Rng
  paren : Bool
  lit : Str
  deriving Repr

def Seg.opn (s : Seg) : Str := if s.paren then ['('] else []
def Seg.cls (s : Seg) : Str := if s.paren then [')'] else []

/-- `head (range literal)*` -/
structure Item where
  head : Str
  tail : List Seg
  deriving Repr

/-- the text from a literal `L` on -/
def renderFrom : Str → List Seg → Str
  | L, [] => L
  | L, s :: t => (L ++ s.opn) ++ (s.r.render ++ renderFrom (s.cls ++ s.lit) t)

def Item.render (it : Item) : Str := renderFrom it.head it.tail

/-- what the scanner should return: literals (with the parentheses still attached) and ranges -/
def rawPieces : Str → List Seg → List Str
  | L, [] => [L]
  | L, s :: t => (L ++ s.opn) :: s.r.render :: rawPieces (s.cls ++ s.lit) t

/-- … and after the parenthesis pass -/
def plainPieces : Str → List Seg → List Str
  | L, [] => [L]
  | L, s :: t => L :: s.r.render :: plainPieces s.lit t

def NoDigitEnd (L : Str) : Prop := ∀ pre c, L = pre ++ [c] → isDigit c = false
def NoAlphaEnd (L : Str) : Prop := ∀ pre c, L = pre ++ [c] → isAlpha c = false

/-- side conditions under which the text is read back unambiguously: no colon in literals; a
    literal before a numeric range does not end with a digit, what follows a numeric range does
    not start with a digit; a literal before `:x` does not end with a letter -/
def SideBefore : Rng → Str → Prop
  | .num _ _, L => NoDigitEnd L
  | .alpha none _, L => NoAlphaEnd L
  | .alpha (some _) _, _ => True

def SideAfter : Rng → Str → Prop
  | .num _ _, R => NoDigitHead R
  | .alpha _ _, _ => True

def ScanWF : Str → List Seg → Prop
  | L, [] => ':' ∉ L
  | L, s :: t =>
      ':' ∉ L ++ s.opn ∧ s.r.WF ∧ SideBefore s.r (L ++ s.opn) ∧
      SideAfter s.r (renderFrom (s.cls ++ s.lit) t) ∧ ScanWF (s.cls ++ s.lit) t

def nextOpn : List Seg → Str
  | [] => []
  | s :: _ => s.opn

/-- an unparenthesised range is not accidentally surrounded by `(` … `)` -/
def ParenWF : Str → List Seg → Prop
  | _, [] => True
  | L, s :: t =>
      (s.paren = false → ¬ (L.getLast? = some '(' ∧ (s.lit ++ nextOpn t).head? = some ')')) ∧
      ParenWF s.lit t

/-- scanner steps needed: one per character of a literal, one per range -/
def scanFuel : Str → List Seg → Nat
  | L, [] => L.length
  | L, s :: t => (L ++ s.opn).length + 1 + scanFuel (s.cls ++ s.lit) t

/-! ### the scanner on an item -/

theorem Rng.render_ne_nil (r : Rng) : r.render ≠ [] := by
  cases r with
  | num a b => simp [Rng.render]
  | alpha a b => cases a <;> simp [Rng.render]

theorem scanFuel_le (L : Str) (t : List Seg) : scanFuel L t ≤ (renderFrom L t).length := by
  induction t generalizing L with
  | nil => simp [scanFuel, renderFrom]
  | cons s t ih =>
    have := ih (s.cls ++ s.lit)
    have hr := List.length_pos_iff.mpr s.r.render_ne_nil
    simp only [scanFuel, renderFrom, List.length_append] at this ⊢
    omega

theorem no_match_end (L : Str) (hcolon : ':' ∉ L) :
    ∀ L1 c L2, L = L1 ++ c :: L2 → matchRange (c :: L2 ++ []) = none :=
  no_match_in L [] hcolon (fun _ ds _ _ hds => by simpa using matchNum_digits ds hds)
    (fun _ c _ => matchAlpha_one c)

theorem no_match_before (L : Str) (r : Rng) (rest : Str) (hcolon : ':' ∉ L) (hr : r.WF)
    (hside : SideBefore r L) :
    ∀ L1 c L2, L = L1 ++ c :: L2 → matchRange (c :: L2 ++ (r.render ++ rest)) = none := by
  have hcc : ∀ pre c, L = pre ++ [c] → c ≠ ':' := by
    intro pre c hL e; subst e; exact hcolon (by rw [hL]; simp)
  cases r with
  | num a b =>
    obtain ⟨ha, hb, hne⟩ := hr
    apply no_match_in L _ hcolon
    · -- trailing digits of `L`: there are none
      intro pre ds hL hne hds
      have hd := hside (pre ++ ds.dropLast) (ds.getLast hne)
        (by rw [hL, List.append_assoc, List.dropLast_concat_getLast hne])
      rw [hds _ (List.getLast_mem hne)] at hd
      cases hd
    · intro pre c hL
      cases a with
      | nil =>
        cases b with
        | nil => exact absurd rfl hne
        | cons b0 b' => exact matchAlpha_colon c b0 _ (hcc pre c hL) (Or.inr (digit_not_alpha (hb b0 (by simp))))
      | cons d a' => exact matchAlpha_two c d _ (hcc pre c hL) (digit_ne_colon (ha d (by simp)))
  | alpha a b =>
    cases a with
    | none =>
      apply no_match_in L _ hcolon
      · intro pre ds _ _ hds
        simp [Rng.render, matchNum_colon ds _ hds, alpha_not_digit hr.2]
      · intro pre c hL
        exact matchAlpha_colon c b _ (hcc pre c hL) (Or.inl (hside pre c hL))
    | some a =>
      have haa := hr.1 a rfl
      apply no_match_in L _ hcolon
      · intro pre ds _ _ hds
        exact matchNum_none_of ds a _ hds (alpha_not_digit haa) (alpha_ne_colon haa)
      · intro pre c hL
        exact matchAlpha_two c a _ (hcc pre c hL) (alpha_ne_colon haa)

theorem scan_item (L : Str) (t : List Seg) (n : Nat) (h : ScanWF L t) :
    rangeSplitAux (scanFuel L t + n) (renderFrom L t) = rawPieces L t := by
  induction t generalizing L n with
  | nil =>
    simpa [scanFuel, renderFrom, rawPieces] using
      scan_lit L [] [] [] n (no_match_end L h) (rangeSplitAux_nil n)
  | cons s t ih =>
    obtain ⟨hcolon, hr, hside, hafter, hrest⟩ := h
    have hm := matchRange_render s.r (renderFrom (s.cls ++ s.lit) t) hr
      (fun a b hsr => by rw [hsr] at hafter; exact hafter)
    have hscan := scan_match _ _ _ (scanFuel (s.cls ++ s.lit) t + n) (by simp [s.r.render_ne_nil]) hm
    rw [ih _ _ hrest] at hscan
    have := scan_lit (L ++ s.opn) _ _ _ _ (no_match_before _ s.r _ hcolon hr hside) hscan
    rw [List.append_nil] at this
    rw [scanFuel, renderFrom, rawPieces, ← this]
    congr 1
    omega

theorem rangeSplit_item (it : Item) (h : ScanWF it.head it.tail) :
    rangeSplit it.render = rawPieces it.head it.tail := by
  have hle := scanFuel_le it.head it.tail
  rw [← scan_item it.head it.tail ((renderFrom it.head it.tail).length + 1 - scanFuel it.head it.tail) h,
    rangeSplit, Item.render]
  congr 1
  omega

/-! ### the parenthesis pass -/

theorem Rng.render_colon (r : Rng) (h : r.WF) : ':' ∈ r.render ∧ r.render ≠ [':'] := by
  cases r with
  | num a b =>
    obtain ⟨_, _, hne⟩ := h
    cases a <;> cases b <;> simp_all [Rng.render]
  | alpha a b => cases a <;> simp [Rng.render]

theorem contains_false_of_not_mem (L : Str) (h : ':' ∉ L) : L.contains ':' = false := by
  simpa using h

theorem stripParensAux_cons (prev cur next : Str) (rest : List Str) :
    stripParensAux prev cur (next :: rest) =
      if parenCond prev cur next = true then prev.dropLast :: stripParensAux cur next.tail rest
      else prev :: stripParensAux cur next rest := rfl

theorem parenCond_paren (L x : Str) (r : Rng) (h : r.WF) :
    parenCond (L ++ ['(']) r.render (')' :: x) = true := by
  simp [parenCond, r.render_colon h]

theorem parenCond_nocolon (prev cur next : Str) (h : ':' ∉ cur) :
    parenCond prev cur next = false := by
  simp [parenCond, h]

theorem parenCond_plain (L cur next : Str) (h : ¬ (L.getLast? = some '(' ∧ next.head? = some ')')) :
    parenCond L cur next = false := by
  simpa [parenCond] using fun _ _ h1 h2 => h ⟨h1, h2⟩

/-- first step of the pass at a range `s`: the literal before it loses its `(` and the text after
    it its `)` exactly when the range is parenthesised -/
theorem strip_step (L : Str) (s : Seg) (next : Str) (rest : List Str) (hr : s.r.WF)
    (hp : s.paren = false → ¬ (L.getLast? = some '(' ∧ next.head? = some ')')) :
    stripParensAux (L ++ s.opn) s.r.render ((s.cls ++ next) :: rest)
      = L :: stripParensAux s.r.render next rest := by
  rw [stripParensAux_cons]
  cases hpar : s.paren with
  | true => simp [Seg.opn, Seg.cls, hpar, parenCond_paren L next s.r hr]
  | false => simp [Seg.opn, Seg.cls, hpar, parenCond_plain L s.r.render next (hp hpar)]

theorem strip_aux (L : Str) (s : Seg) (t : List Seg) (hr : s.r.WF)
    (hcol : ScanWF (s.cls ++ s.lit) t) (hp : ParenWF L (s :: t)) :
    stripParensAux (L ++ s.opn) s.r.render (rawPieces (s.cls ++ s.lit) t)
      = L :: s.r.render :: plainPieces s.lit t := by
  induction t generalizing L s with
  | nil => exact strip_step L s s.lit [] hr (by simpa [nextOpn] using hp.1)
  | cons s' t' ih =>
    obtain ⟨hcolon', hr', _, _, hrest'⟩ := hcol
    -- the literal between `s` and `s'` has no colon, so the pass does nothing at it
    have hnc : ':' ∉ s.lit ++ s'.opn := fun hm => hcolon' (by simp_all)
    rw [rawPieces, List.append_assoc s.cls, strip_step L s _ _ hr (by simpa [nextOpn] using hp.1),
      stripParensAux_cons, parenCond_nocolon _ _ _ hnc, plainPieces, ← ih s.lit s' hr' hrest' hp.2]
    rfl

theorem stripParens_item (it : Item) (h : ScanWF it.head it.tail) (hp : ParenWF it.head it.tail) :
    stripParens (rawPieces it.head it.tail) = plainPieces it.head it.tail := by
  cases ht : it.tail with
  | nil => rfl
  | cons s t =>
    rw [ht] at h hp
    rw [plainPieces, ← strip_aux it.head s t h.2.1 h.2.2.2.2 hp, rawPieces]
    cases t <;> rfl

/-! ### the value of a range -/

/-- value of a digit string (0 for the empty string) -/
def digitsVal (s : Str) : Nat := s.foldl (fun acc c => acc * 10 + (c.toNat - 48)) 0

/-- position of a letter in `a…zA…Z` -/
def letterIdx (c : Char) : Nat := if 97 ≤ c.toNat then c.toNat - 97 else c.toNat - 65 + 26

/-- the letter at a position of `a…zA…Z` -/
def letterAt (k : Nat) : Char := Char.ofNat (if k < 26 then 97 + k else 65 + (k - 26))

/-- denotation of a range: `a:b` enumerates `a, …, b-1` in decimal (start 0 when omitted);
    `x:y` enumerates the letters from `x` to `y` inclusive in the order `a…zA…Z` (start `a`
    when omitted) -/
def Rng.den : Rng → List Str
  | .num a b =>
      (List.range (digitsVal b - digitsVal a)).map (fun i => Nat.toDigits 10 (digitsVal a + i))
  | .alpha a b =>
      let ia := letterIdx (a.getD 'a')
      (List.range (letterIdx b + 1 - ia)).map (fun i => [letterAt (ia + i)])

theorem strip_digits (s : Str) (h : ∀ c ∈ s, isDigit c = true) : strip s = s := by
  by_cases hne : s = []
  · rw [hne]; rfl
  · obtain ⟨d, ds, hs⟩ := List.exists_cons_of_ne_nil hne
    simpa using strip_pad [] [] s (by simp) (by simp)
      ⟨d, ds, hs, digit_not_space (h d (by simp [hs]))⟩
      ⟨_, _, (List.dropLast_concat_getLast hne).symm, digit_not_space (h _ (List.getLast_mem hne))⟩

theorem natLitAux_digits (s : Str) (acc : Nat) (pd : Bool) (h : ∀ c ∈ s, isDigit c = true)
    (hne : s ≠ [] ∨ pd = true) :
    natLitAux s acc pd = some (s.foldl (fun acc c => acc * 10 + (c.toNat - 48)) acc) := by
  fun_induction natLitAux s acc pd <;> simp_all

theorem pyInt_digits (s : Str) (h : ∀ c ∈ s, isDigit c = true) (hne : s ≠ []) :
    pyInt s = some (Int.ofNat (digitsVal s)) := by
  obtain ⟨d, ds, rfl⟩ := List.exists_cons_of_ne_nil hne
  have hd := h d (by simp)
  have h1 : d ≠ '+' := by intro e; subst e; cases hd
  have h2 : d ≠ '-' := by intro e; subst e; cases hd
  rw [pyInt, strip_digits _ h]
  simp [h1, h2, natLit, natLitAux_digits _ 0 false h (Or.inl hne), digitsVal]

theorem intRange_ofNat (x y : Nat) :
    (intRange (Int.ofNat x) (Int.ofNat y)).map intRepr
      = (List.range (y - x)).map (fun i => Nat.toDigits 10 (x + i)) := by
  have : ((y : Int) - (x : Int)).toNat = y - x := by omega
  rw [intRange, Int.ofNat_eq_natCast, Int.ofNat_eq_natCast, this, List.map_map]
  apply List.map_congr_left
  intro i _
  have hnn : ¬ (((x : Int) + (i : Int)) < 0) := by omega
  have hab : ((x : Int) + (i : Int)).natAbs = x + i := by omega
  simp [intRepr, hnn, hab]

/-- the alphabet table `string.ascii_letters`, entry by entry -/
theorem subIndex_alpha_aux : ∀ n, n < 123 → isAlpha (Char.ofNat n) = true →
    subIndex [Char.ofNat n] asciiLetters 0 = some (letterIdx (Char.ofNat n)) := by decide +kernel

theorem subIndex_alpha (c : Char) (h : isAlpha c = true) :
    subIndex [c] asciiLetters 0 = some (letterIdx c) := by
  have hn : c.toNat < 123 := by
    simp only [isAlpha, Bool.or_eq_true, Bool.and_eq_true, decide_eq_true_eq] at h; omega
  simpa using subIndex_alpha_aux c.toNat hn (by simpa using h)

theorem letters_at : ∀ k, k < 52 → (asciiLetters.drop k).take 1 = [letterAt k] := by decide +kernel

theorem letterIdx_lt (c : Char) (h : isAlpha c = true) : letterIdx c < 52 := by
  simp only [isAlpha, Bool.or_eq_true, Bool.and_eq_true, decide_eq_true_eq] at h
  unfold letterIdx
  split <;> omega

theorem expandPiece_split (a b : Str) (ha : ':' ∉ a) (hb : ':' ∉ b) (hne : b ≠ []) :
    expandPiece (a ++ ':' :: b) = if lastIsDigit b then numPiece a b else alphaPiece a b := by
  have hsplit : splitOn ':' (a ++ ':' :: b) = [a, b] := by
    rw [splitOn_append_sep _ _ _ ha, splitOn_no_sep _ _ hb]
  obtain ⟨b', c, rfl⟩ : ∃ b' c, b = b' ++ [c] := ⟨_, _, (List.dropLast_concat_getLast hne).symm⟩
  have hc : c ≠ ':' := fun e => hb (by simp [e])
  have hlast : (a ++ ':' :: (b' ++ [c])).getLast? = some c := by
    rw [← List.cons_append, ← List.append_assoc, List.getLast?_concat]
  simp [expandPiece, hsplit, hlast, hc]

theorem expandPiece_range (r : Rng) (h : r.WF) : expandPiece r.render = .ok r.den := by
  have hnc : ∀ s : Str, (∀ c ∈ s, isDigit c = true) → ':' ∉ s := fun s hs hm => by
    have := hs _ hm; rw [colon_not_digit] at this; cases this
  cases r with
  | num a b =>
    obtain ⟨ha, hb, hne⟩ := h
    have hld : lastIsDigit b = true := by
      simp [lastIsDigit, List.getLast?_eq_some_getLast hne, hb _ (List.getLast_mem hne)]
    have hpa : (if a.isEmpty then some 0 else pyInt a) = some (Int.ofNat (digitsVal a)) := by
      cases a with
      | nil => rfl
      | cons a0 a' => exact pyInt_digits _ ha (by simp)
    rw [Rng.render, expandPiece_split a b (hnc a ha) (hnc b hb) hne, hld, if_pos rfl, numPiece, hpa,
      pyInt_digits b hb hne]
    exact congrArg _ (intRange_ofNat _ _)
  | alpha a b =>
    obtain ⟨ha, hb⟩ := h
    have hrender : Rng.render (.alpha a b) = a.toList ++ ':' :: [b] := by cases a <;> rfl
    have hla : (if a.toList.isEmpty then ['a'] else a.toList) = [a.getD 'a'] := by cases a <;> rfl
    have haa : isAlpha (a.getD 'a') = true := by
      cases a with
      | none => rfl
      | some c => exact ha c rfl
    have hac : ':' ∉ a.toList := by
      cases a with
      | none => simp
      | some c => simpa using Ne.symm (alpha_ne_colon (ha c rfl))
    rw [hrender, expandPiece_split _ [b] hac (by simpa using Ne.symm (alpha_ne_colon hb)) (by simp),
      alphaPiece, hla, subIndex_alpha _ haa, subIndex_alpha b hb]
    have hlt := letterIdx_lt b hb
    simp only [lastIsDigit, List.getLast?_singleton, alpha_not_digit hb, Bool.false_eq_true, if_false,
      Rng.den]
    congr 1
    apply List.map_congr_left
    intro i hi
    exact letters_at _ (by have := List.mem_range.mp hi; omega)

theorem expandPiece_lit (L : Str) (h : ':' ∉ L) : expandPiece L = .ok [L] := by
  simp [expandPiece, h]

/-! ### the product -/

/-- `[a ++ b | a ← A, b ← B]` -/
def cat (A B : List Str) : List Str := A.flatMap (fun a => B.map (fun b => a ++ b))

/-- denotation of an item: concatenation product of the literal pieces and the ranges -/
def denFrom : Str → List Seg → List Str
  | L, [] => [L]
  | L, s :: t => cat [L] (cat s.r.den (denFrom s.lit t))

def Item.den (it : Item) : List Str := denFrom it.head it.tail

def Item.hasRange (it : Item) : Bool := !it.tail.isEmpty

/-- the pieces after expansion -/
def expandedFrom : Str → List Seg → List (List Str)
  | L, [] => [[L]]
  | L, s :: t => [L] :: s.r.den :: expandedFrom s.lit t

theorem cat_isEmpty (A B : List Str) : (cat A B).isEmpty = (A.isEmpty || B.isEmpty) := by
  cases A <;> cases B <;> simp [cat]

/-- the loop over the pieces stops at the first empty range, i.e. when the product is empty -/
theorem expandPieces_plain (L0 L : Str) (t : List Seg) (h : ScanWF (L0 ++ L) t) :
    expandPieces (plainPieces L t)
      = .ok (if (denFrom L t).isEmpty then none else some (expandedFrom L t)) := by
  induction t generalizing L0 L with
  | nil =>
    have hc : ':' ∉ L := fun hm => h (by simp [hm])
    simp [plainPieces, expandPieces, expandPiece_lit L hc, denFrom, expandedFrom]
  | cons s t ih =>
    obtain ⟨hc, hr, _, _, hrest⟩ := h
    have hc : ':' ∉ L := fun hm => hc (by simp [hm])
    cases h1 : s.r.den.isEmpty <;> cases h2 : (denFrom s.lit t).isEmpty <;>
      simp [plainPieces, expandPieces, expandPiece_lit L hc, expandPiece_range s.r hr,
        ih s.cls s.lit hrest, denFrom, cat_isEmpty, expandedFrom, h1, h2]

theorem cartes_expanded (L : Str) (t : List Seg) : cartes (expandedFrom L t) = denFrom L t := by
  fun_induction expandedFrom L t <;> simp_all [cartes, denFrom, cat]

def Item.WF (it : Item) : Prop := ScanWF it.head it.tail ∧ ParenWF it.head it.tail

theorem renderFrom_colon (L : Str) (s : Seg) (t : List Seg) (h : s.r.WF) :
    ':' ∈ renderFrom L (s :: t) := by
  simp [renderFrom, (s.r.render_colon h).1]

/-- one name: a well-formed item expands to its denotation; the sequence flag is switched
    on exactly when the item has a range and its denotation is not empty -/
theorem expandName_item (it : Item) (h : it.WF) (hne : it.head ≠ [] ∨ it.tail ≠ []) :
    expandName [] it.render = .ok (it.den, it.hasRange && !it.den.isEmpty) := by
  obtain ⟨head, tail⟩ := it
  obtain ⟨hs, hp⟩ := h
  cases tail with
  | nil =>
    have hc : ':' ∉ head := hs
    have hh : head ≠ [] := by simpa using hne
    simp [expandName, Item.render, renderFrom, hc, hh, literal_nil, Item.den, denFrom, Item.hasRange]
  | cons s t =>
    have hcol := renderFrom_colon head s t hs.2.1
    have hrne : renderFrom head (s :: t) ≠ [] := List.ne_nil_of_mem hcol
    have hlit : ∀ l : List Str, l.map (literal []) = l := fun l => by
      rw [show literal [] = id from funext literal_nil, List.map_id]
    rw [expandName, rangeSplit_item ⟨head, s :: t⟩ hs, stripParens_item ⟨head, s :: t⟩ hs hp]
    simp only [Item.render, hrne, hcol, List.isEmpty_iff, List.contains_eq_mem, decide_true,
      Bool.not_true, Bool.false_eq_true, if_false,
      expandPieces_plain [] head (s :: t) (by simpa using hs), Item.den, Item.hasRange]
    by_cases hd : denFrom head (s :: t) = []
    · simp [hd]
    · have := cartes_expanded head (s :: t)
      rw [expandedFrom] at this
      simp [hd, expandedFrom, this, hlit]

end Sympde.Pat

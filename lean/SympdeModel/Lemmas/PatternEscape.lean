/-
  Escapes.  A name written with the escapes `\,` `\:` `\ `
  is first rewritten with fresh marker characters (utils.py:64-74) and the markers are turned
  back into the escaped characters at the very end (`literal`, utils.py:75-79).  The invariant
  `Inv` follows the three turns of the replacement loop.
-/
import SympdeModel.Lemmas.PatternLayout
namespace Sympde.Pat

/-- the three characters that can be escaped -/
inductive Esc where
  | comma | colon | blank
  deriving DecidableEq, Repr

def Esc.char : Esc → Char
  | .comma => ','
  | .colon => ':'
  | .blank => ' '

/-- a character of a name: written as itself, or escaped -/
inductive Tok where
  | plain (c : Char)
  | esc (e : Esc)
  deriving DecidableEq, Repr

def Tok.value : Tok → Char
  | .plain c => c
  | .esc e => e.char

/-- the text of a token when the escapes `e` with `f e = some m` are already replaced by `m` -/
def Tok.rw (f : Esc → Option Char) : Tok → Str
  | .plain c => [c]
  | .esc e => match f e with
    | some m => [m]
    | none => ['\\', e.char]

def renderWith (f : Esc → Option Char) (ts : List Tok) : Str := ts.flatMap (Tok.rw f)

/-- the text as the user writes it -/
def renderToks (ts : List Tok) : Str := renderWith (fun _ => none) ts

/-- characters allowed unescaped in the escape theorem: no separator, colon or backslash, and
    not one of the three smallest code points (which serve as markers) -/
def PlainOK (c : Char) : Prop :=
  isSpace c = false ∧ c ≠ ',' ∧ c ≠ ':' ∧ c ≠ '\\' ∧ 3 ≤ c.toNat

theorem Esc.char_inj {a b : Esc} (h : a.char = b.char) : a = b := by
  cases a <;> cases b <;> first | rfl | (revert h; decide)

theorem Esc.char_ne_backslash (e : Esc) : e.char ≠ '\\' := by cases e <;> decide

theorem Esc.char_toNat (e : Esc) : 32 ≤ e.char.toNat := by cases e <;> decide

/-! ### replacement of a two-character escape -/

/-- a token text that the search for `\x` passes over: one character other than the backslash,
    or another escape -/
def Inert (x : Char) (w : Str) : Prop :=
  (∃ c, w = [c] ∧ c ≠ '\\') ∨ (∃ y, w = ['\\', y] ∧ y ≠ x ∧ y ≠ '\\')

theorem replaceAux_inert (x m : Char) (w cs : Str) (h : Inert x w) :
    replaceAux ['\\', x] [m] (w ++ cs) 0 = w ++ replaceAux ['\\', x] [m] cs 0 := by
  rcases h with ⟨c, rfl, hc⟩ | ⟨y, rfl, hy, hy2⟩
  · simp [replaceAux, List.isPrefixOf, Ne.symm hc]
  · simp [replaceAux, List.isPrefixOf, Ne.symm hy, Ne.symm hy2]

theorem replaceAux_match (x m : Char) (cs : Str) :
    replaceAux ['\\', x] [m] ('\\' :: x :: cs) 0 = m :: replaceAux ['\\', x] [m] cs 0 := by
  simp [replaceAux, List.isPrefixOf]

theorem hasSub_inert (x : Char) (w cs : Str) (h : Inert x w) :
    hasSub ['\\', x] (w ++ cs) = hasSub ['\\', x] cs := by
  rcases h with ⟨c, rfl, hc⟩ | ⟨y, rfl, hy, hy2⟩
  · have h1 : ('\\' == c) = false := by simpa using Ne.symm hc
    simp [hasSub, List.isPrefixOf, h1]
  · have h1 : (x == y) = false := by simpa using Ne.symm hy
    have h2 : ('\\' == y) = false := by simpa using Ne.symm hy2
    simp [hasSub, List.isPrefixOf, h1, h2]

/-- update of the marker table -/
def upd (f : Esc → Option Char) (e : Esc) (m : Char) : Esc → Option Char :=
  fun e' => if e' = e then some m else f e'

theorem Tok.rw_inert (f : Esc → Option Char) (e : Esc) (t : Tok) (hne : t ≠ .esc e)
    (hmk : ∀ e' m', f e' = some m' → m' ≠ '\\') (hpl : ∀ c, t = .plain c → c ≠ '\\') :
    Inert e.char (Tok.rw f t) := by
  cases t with
  | plain c => exact .inl ⟨c, rfl, hpl c rfl⟩
  | esc e' =>
    cases hf : f e' with
    | some m' => exact .inl ⟨m', by simp [Tok.rw, hf], hmk e' m' hf⟩
    | none =>
      exact .inr ⟨e'.char, by simp [Tok.rw, hf], fun h => hne (congrArg _ (Esc.char_inj h)),
        e'.char_ne_backslash⟩

theorem Tok.rw_upd (f : Esc → Option Char) (e : Esc) (m : Char) (t : Tok) (hne : t ≠ .esc e) :
    Tok.rw (upd f e m) t = Tok.rw f t := by
  cases t with
  | plain c => rfl
  | esc e' =>
    have : e' ≠ e := fun h => hne (congrArg _ h)
    simp [Tok.rw, upd, this]

theorem replace_toks (f : Esc → Option Char) (e : Esc) (m : Char) (ts : List Tok) (hfe : f e = none)
    (hmk : ∀ e' m', f e' = some m' → m' ≠ '\\') (hpl : ∀ c, Tok.plain c ∈ ts → c ≠ '\\') :
    replaceSub ['\\', e.char] [m] (renderWith f ts) = renderWith (upd f e m) ts := by
  unfold replaceSub
  induction ts with
  | nil => rfl
  | cons t ts ih =>
    have ih' := ih (fun c hc => hpl c (by simp [hc]))
    simp only [renderWith, List.flatMap_cons] at ih' ⊢
    by_cases ht : t = .esc e
    · subst ht
      simp [Tok.rw, hfe, upd, replaceAux_match, ih']
    · rw [replaceAux_inert _ _ _ _ (Tok.rw_inert f e t ht hmk (fun c hc => hpl c (by simp [hc]))),
        Tok.rw_upd f e m t ht, ih']

theorem hasSub_toks (f : Esc → Option Char) (e : Esc) (ts : List Tok) (hfe : f e = none)
    (hmk : ∀ e' m', f e' = some m' → m' ≠ '\\') (hpl : ∀ c, Tok.plain c ∈ ts → c ≠ '\\') :
    hasSub ['\\', e.char] (renderWith f ts) = true ↔ Tok.esc e ∈ ts := by
  induction ts with
  | nil => simp [renderWith, hasSub]
  | cons t ts ih =>
    have ih' := ih (fun c hc => hpl c (by simp [hc]))
    simp only [renderWith, List.flatMap_cons] at ih' ⊢
    by_cases ht : t = .esc e
    · subst ht
      simp [Tok.rw, hfe, hasSub, List.isPrefixOf]
    · rw [hasSub_inert _ _ _ (Tok.rw_inert f e t ht hmk (fun c hc => hpl c (by simp [hc]))), ih']
      simp [Ne.symm ht]

/-! ### `literal` acts character by character -/

theorem replaceSub_single (m : Char) (r s : Str) :
    replaceSub [m] r s = s.flatMap (fun c => if c = m then r else [c]) := by
  unfold replaceSub
  induction s with
  | nil => rfl
  | cons c cs ih =>
    by_cases h : c = m
    · simp [replaceAux, List.isPrefixOf, h, ih]
    · simp [replaceAux, List.isPrefixOf, Ne.symm h, h, ih]

theorem literal_flatMap (lits : List (Char × Str)) (s : Str) :
    literal lits s = s.flatMap (fun c => literal lits [c]) := by
  induction lits generalizing s with
  | nil => simp [literal]
  | cons l ls ih =>
    simp only [literal, List.foldl_cons] at ih ⊢
    rw [ih, replaceSub_single, List.flatMap_assoc]
    congr 1
    funext c
    rw [ih (replaceSub _ _ [c]), replaceSub_single, List.flatMap_singleton]

theorem literal_snoc (lits : List (Char × Str)) (m : Char) (r s : Str) :
    literal (lits ++ [(m, r)]) s = replaceSub [m] r (literal lits s) := by
  simp [literal, List.foldl_append]

theorem literal_snoc_single (lits : List (Char × Str)) (m c d : Char) (r : Str)
    (h : literal lits [c] = [d]) : literal (lits ++ [(m, r)]) [c] = if d = m then r else [d] := by
  rw [literal_snoc, h, replaceSub_single, List.flatMap_singleton]

/-! ### the invariant of the escape loop -/

/-- state `st` of the loop after the escapes in `done` have been looked at -/
structure Inv (ts : List Tok) (st : EscState) (f : Esc → Option Char) (done : List Esc) : Prop where
  names : st.names = renderWith f ts
  bound : st.marker ≤ done.length
  small : ∀ e m, f e = some m → m.toNat < st.marker
  back : ∀ e m, f e = some m → literal st.lits [m] = [e.char]
  fixed : ∀ c : Char, st.marker ≤ c.toNat → literal st.lits [c] = [c]
  todo : ∀ e, e ∉ done → f e = none
  complete : ∀ e, e ∈ done → Tok.esc e ∈ ts → (f e).isSome = true

theorem ofNat_small (k : Nat) (h : k < 3) : (Char.ofNat k).toNat = k := by
  have : k = 0 ∨ k = 1 ∨ k = 2 := by omega
  rcases this with rfl | rfl | rfl <;> decide

theorem inv_step (ts : List Tok) (hpl : ∀ c, Tok.plain c ∈ ts → PlainOK c) (st : EscState)
    (f : Esc → Option Char) (done : List Esc) (e : Esc) (hinv : Inv ts st f done) (he : e ∉ done)
    (hlen : done.length < 3) :
    ∃ f', Inv ts (escapeStep st ['\\', e.char]) f' (done ++ [e]) := by
  have hfe := hinv.todo e he
  have hb := hinv.bound
  have hm := ofNat_small st.marker (by omega)
  have h92 : ('\\' : Char).toNat = 92 := by decide
  have hmk : ∀ e' m', f e' = some m' → m' ≠ '\\' := by
    intro e' m' h hbs
    have := hinv.small e' m' h
    rw [hbs, h92] at this
    omega
  have hpl' : ∀ c, Tok.plain c ∈ ts → c ≠ '\\' := fun c hc => (hpl c hc).2.2.2.1
  have hsub := hasSub_toks f e ts hfe hmk hpl'
  rw [← hinv.names] at hsub
  -- a character differs from the marker as soon as its code point does
  have hne : ∀ c : Char, c.toNat ≠ st.marker → c ≠ Char.ofNat st.marker :=
    fun c hc h => hc (by rw [h, hm])
  unfold escapeStep
  by_cases hp : Tok.esc e ∈ ts
  · -- the escape occurs: a fresh marker replaces it
    have hcode : ∀ c ∈ renderWith f ts, c.toNat ≠ st.marker := by
      intro c hc
      obtain ⟨t, ht, hct⟩ := List.mem_flatMap.mp hc
      cases t with
      | plain c' =>
        simp [Tok.rw] at hct; subst hct
        have := (hpl _ ht).2.2.2.2; omega
      | esc e' =>
        cases hf : f e' with
        | some m =>
          simp [Tok.rw, hf] at hct; subst hct
          have := hinv.small e' _ hf; omega
        | none =>
          simp [Tok.rw, hf] at hct
          rcases hct with rfl | rfl
          · omega
          · have := e'.char_toNat; omega
    have hfresh : Char.ofNat st.marker ∉ st.names := fun hmem => hcode _ (hinv.names ▸ hmem) hm
    have hnm : nextMarker st.names (st.names.length + 1) st.marker = st.marker := by
      simp [nextMarker, hfresh]
    rw [if_pos (hsub.mpr hp)]
    simp only [hnm, List.drop_one, List.tail_cons]
    refine ⟨upd f e (Char.ofNat st.marker),
      by rw [hinv.names]; exact replace_toks f e _ ts hfe hmk hpl', ?_, ?_, ?_, ?_, ?_, ?_⟩
    · simp; omega
    · intro e' m' h
      simp only [upd] at h
      split at h
      · injection h with h; subst h; simp [hm]
      · have := hinv.small e' m' h; simp; omega
    · intro e' m' h
      simp only [upd] at h
      split at h
      · rename_i heq
        injection h with h
        subst h heq
        rw [literal_snoc_single _ _ _ _ _ (hinv.fixed _ (by omega)), if_pos rfl]
      · rw [literal_snoc_single _ _ _ _ _ (hinv.back e' m' h),
          if_neg (hne _ (by have := e'.char_toNat; omega))]
    · intro c hc
      have hc : st.marker + 1 ≤ c.toNat := hc
      rw [literal_snoc_single _ _ _ _ _ (hinv.fixed c (by omega)), if_neg (hne _ (by omega))]
    · intro e' he'
      simp only [List.mem_append, List.mem_singleton, not_or] at he'
      simp [upd, he'.2, hinv.todo e' he'.1]
    · intro e' he' hp'
      simp only [List.mem_append, List.mem_singleton] at he'
      simp only [upd]
      split
      · rfl
      · exact hinv.complete e' (he'.resolve_right ‹_›) hp'
  · -- the escape does not occur: nothing changes
    rw [if_neg (fun h => hp (hsub.mp h))]
    refine ⟨f, hinv.names, by simp; omega, hinv.small, hinv.back, hinv.fixed, ?_, ?_⟩
    · intro e' he'
      exact hinv.todo e' (fun h => he' (by simp [h]))
    · intro e' he' hp'
      simp only [List.mem_append, List.mem_singleton] at he'
      rcases he' with h | h
      · exact hinv.complete e' h hp'
      · subst h; exact absurd hp' hp

theorem inv_final (ts : List Tok) (hpl : ∀ c, Tok.plain c ∈ ts → PlainOK c) :
    ∃ f, Inv ts (escapeAll (renderToks ts)) f [.comma, .colon, .blank] := by
  have h0 : Inv ts { names := renderToks ts, marker := 0, lits := [] } (fun _ => none) [] :=
    ⟨rfl, Nat.le_refl _, nofun, nofun, fun _ _ => rfl, fun _ _ => rfl, nofun⟩
  obtain ⟨f1, h1⟩ := inv_step ts hpl _ _ [] .comma h0 (by simp) (by simp)
  obtain ⟨f2, h2⟩ := inv_step ts hpl _ _ _ .colon h1 (by simp) (by simp)
  exact inv_step ts hpl _ _ _ .blank h2 (by simp) (by simp)

/-- escapes: a name written with plain characters and the escapes `\,` `\:` `\ ` expands to
    the single name in which every escape stands for its character, whatever the `seq` argument -/
theorem expandStr_escaped (ts : List Tok) (hne : ts ≠ []) (hpl : ∀ c, Tok.plain c ∈ ts → PlainOK c)
    (seq : SeqArg) :
    expandStr seq (renderToks ts) = match seq with
      | .bad => .error .seqType
      | .some true => .ok (.cont .tuple [.name (ts.map Tok.value)])
      | _ => .ok (.name (ts.map Tok.value)) := by
  obtain ⟨f, hinv⟩ := inv_final ts hpl
  have hk : (escapeAll (renderToks ts)).marker ≤ 3 := hinv.bound
  -- every token is one character after the escape stage, and `literal` turns it into its value
  have htok : ∀ t ∈ ts, ∃ c, Tok.rw f t = [c] ∧ literal (escapeAll (renderToks ts)).lits [c] = [t.value] ∧
      isSpace c = false ∧ c ≠ ',' ∧ c ≠ '\\' ∧ c ≠ ':' := by
    intro t ht
    cases t with
    | plain c =>
      obtain ⟨h1, h2, h3, h4, h5⟩ := hpl c ht
      exact ⟨c, rfl, hinv.fixed c (by omega), h1, h2, h4, h3⟩
    | esc e =>
      have := hinv.complete e (by cases e <;> simp) ht
      obtain ⟨m, hm⟩ := Option.isSome_iff_exists.mp this
      have h3 : m.toNat < 3 := by have := hinv.small e m hm; omega
      refine ⟨m, by simp [Tok.rw, hm], hinv.back e m hm, ?_, ?_, ?_, ?_⟩
      · cases hsp : isSpace m with
        | false => rfl
        | true =>
          simp only [isSpace, Bool.or_eq_true, Bool.and_eq_true, decide_eq_true_eq, beq_iff_eq] at hsp
          omega
      all_goals intro h; subst h; revert h3; decide
  have hchars : ∀ c ∈ renderWith f ts, isSpace c = false ∧ c ≠ ',' ∧ c ≠ '\\' ∧ c ≠ ':' := by
    intro c hc
    obtain ⟨t, ht, hct⟩ := List.mem_flatMap.mp hc
    obtain ⟨d, hd, _, h⟩ := htok t ht
    rw [hd, List.mem_singleton] at hct
    exact hct ▸ h
  have hnn : renderWith f ts ≠ [] := by
    obtain ⟨t, ts', rfl⟩ := List.exists_cons_of_ne_nil hne
    obtain ⟨d, hd, _⟩ := htok t (by simp)
    simp [renderWith, hd]
  -- the layout: one field, one name
  let p : Layout := ⟨[], ⟨renderWith f ts, []⟩, [], none, []⟩
  have hp : p.WF :=
    ⟨blank_nil, ⟨⟨hnn, fun c hc => ⟨(hchars c hc).1, (hchars c hc).2.1, (hchars c hc).2.2.1⟩⟩, nofun⟩,
      nofun, nofun, blank_nil⟩
  have hrender : (escapeAll (renderToks ts)).names = p.render := by
    simp [hinv.names, p, Layout.render, midOf, Field.core]
  have hname : expandName (escapeAll (renderToks ts)).lits (renderWith f ts)
      = .ok ([ts.map Tok.value], false) := by
    have hcol : ':' ∉ renderWith f ts := fun hm => (hchars _ hm).2.2.2 rfl
    have hlit : literal (escapeAll (renderToks ts)).lits (renderWith f ts) = ts.map Tok.value := by
      rw [literal_flatMap, renderWith, List.flatMap_assoc, List.map_eq_flatMap, List.flatMap_def,
        List.flatMap_def]
      congr 1
      apply List.map_congr_left
      intro t ht
      obtain ⟨d, hd, hl, _⟩ := htok t ht
      rw [hd, List.flatMap_singleton, hl]
    simp [expandName, hnn, hcol, hlit]
  rw [expandStr_tokens _ p hp hrender]
  rcases seq with _ | (_ | _) | _ <;> simp [p, Layout.names, Field.names, expandNames, hname, finish]

end Sympde.Pat

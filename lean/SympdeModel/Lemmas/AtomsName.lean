/-
  Symbol names (C17).  Chains of derivatives (`mkChain`, `mkBlocks`), what `symbP` does on a
  block of derivatives of one kind, the character-level description of a symbol name (`symChars`)
  and why it can be read back: what follows the function name is a list of `_`-separated
  segments without underscore (`renderSegs`), a numeral for the component and a code per block,
  and a code is never a numeral.
-/
import SympdeModel.Model.Atoms
namespace Sympde.Atoms
open E

/-- `cs = [c₁, …, cₙ]` applied to `a`: `pd c₁ (… (pd cₙ a))` (outermost first) -/
def mkChain (cs : List Coord) (a : E) : E := cs.foldr pd a

def pureKind (lg : Bool) (cs : List Coord) : Prop := ∀ c ∈ cs, c.logical = lg

/-- multi-index of a list of coordinates, starting from `n` -/
def countFrom (n : Nat × Nat × Nat) (cs : List Coord) : Nat × Nat × Nat := cs.foldl incr n

theorem incr_comm (n : Nat × Nat × Nat) (a b : Coord) : incr (incr n a) b = incr (incr n b) a := by
  unfold incr
  generalize a.idx = i
  generalize b.idx = j
  rcases i with _ | _ | i <;> rcases j with _ | _ | j <;> rfl

theorem countFrom_perm {cs cs' : List Coord} (h : cs.Perm cs') (n : Nat × Nat × Nat) :
    countFrom n cs = countFrom n cs' := by
  induction h generalizing n with
  | nil => rfl
  | cons x _ ih => exact ih _
  | swap x y l => simp only [countFrom, List.foldl_cons]; rw [incr_comm]
  | trans _ _ ih1 ih2 => rw [ih1, ih2]

def total (n : Nat × Nat × Nat) : Nat := n.1 + n.2.1 + n.2.2

theorem total_incr (n : Nat × Nat × Nat) (c : Coord) : total (incr n c) = total n + 1 := by
  unfold incr total
  generalize c.idx = i
  rcases i with _ | _ | i <;> simp only <;> omega

theorem total_countFrom (n : Nat × Nat × Nat) (cs : List Coord) :
    total (countFrom n cs) = total n + cs.length := by
  induction cs generalizing n with
  | nil => rfl
  | cons c cs ih =>
    rw [countFrom, List.foldl_cons, ← countFrom, ih, total_incr, List.length_cons]
    omega

theorem countFrom_pos (cs : List Coord) (h : cs ≠ []) :
    0 < (countFrom (0, 0, 0) cs).1 + (countFrom (0, 0, 0) cs).2.1 + (countFrom (0, 0, 0) cs).2.2 := by
  have := total_countFrom (0, 0, 0) cs
  have := List.length_pos_iff.mpr h
  unfold total at *
  omega

/-! ### `symbP` along a chain -/

theorem symbP_block (lg : Bool) (cs : List Coord) (hp : pureKind lg cs) (n : Nat × Nat × Nat)
    (outer : Option (List Char)) (a : E) :
    symbP (some (lg, n)) outer (mkChain cs a) = symbP (some (lg, countFrom n cs)) outer a := by
  induction cs generalizing n with
  | nil => rfl
  | cons c cs ih =>
    have hc : c.logical = lg := hp c (by simp)
    simp only [mkChain, List.foldr_cons, countFrom, List.foldl_cons] at ih ⊢
    rw [symbP]
    simp only [hc, beq_self_eq_true, if_true]
    exact ih (fun x hx => hp x (by simp [hx])) _

theorem symbP_open (c : Coord) (outer : Option (List Char)) (a : E) :
    symbP none outer (pd c a) = symbP (some (c.logical, incr (0, 0, 0) c)) outer a := by
  rw [symbP]

theorem symbP_switch (lg : Bool) (n : Nat × Nat × Nat) (c : Coord) (hc : c.logical ≠ lg)
    (outer : Option (List Char)) (a : E) :
    symbP (some (lg, n)) outer (pd c a)
      = symbP (some (c.logical, incr (0, 0, 0) c)) (some (joinCode (codeChars lg n) outer)) a := by
  rw [symbP]
  have : (c.logical == lg) = false := by simpa using hc
  simp [this, closeBlock]

theorem symbP_pure_head (lg : Bool) (cs : List Coord) (hne : cs ≠ []) (hp : pureKind lg cs)
    (outer : Option (List Char)) (X : E) :
    symbP none outer (mkChain cs X) = symbP (some (lg, countFrom (0, 0, 0) cs)) outer X := by
  cases cs with
  | nil => exact absurd rfl hne
  | cons c cs =>
    have := symbP_block lg cs (fun x hx => hp x (by simp [hx])) (incr (0, 0, 0) c) outer X
    rw [mkChain, List.foldr_cons, symbP_open, hp c (by simp), ← mkChain, this]
    rfl

/-! ### names as character lists -/

/-- a block of a chain: kind and (non-zero) multi-index -/
structure Block where
  lg : Bool
  n : Nat × Nat × Nat
  deriving Repr, DecidableEq

def Block.valid (b : Block) : Prop := 0 < b.n.1 + b.n.2.1 + b.n.2.2

/-- `_code₁_code₂…` for the blocks of a chain, innermost first -/
def tailChars : List Block → List Char
  | [] => []
  | b :: bs => '_' :: codeChars b.lg b.n ++ tailChars bs

/-- `_i` for a component -/
def compChars : Option Nat → List Char
  | none => []
  | some i => '_' :: Nat.toDigits 10 i

/-- the symbol name of the chain with blocks `bs` over component `comp` of the function `name` -/
def symChars (name : List Char) (comp : Option Nat) (bs : List Block) : List Char :=
  name ++ compChars comp ++ tailChars bs

/-- what can follow a function name in a symbol: a component and/or at least one block -/
def IsSuffix (s : List Char) : Prop :=
  ∃ comp bs, (comp ≠ none ∨ bs ≠ []) ∧ (∀ b ∈ bs, b.valid) ∧ s = compChars comp ++ tailChars bs

/-- hygiene: no function name is another function name followed by a component and/or
    derivative code (`u_x` next to `u`, `F_0` next to `F`, `u_0_xx` next to `u`, …) -/
def Hygienic (names : List (List Char)) : Prop :=
  ∀ n1 ∈ names, ∀ n2 ∈ names, ∀ s, IsSuffix s → n2 ≠ n1 ++ s

/-- a decidable sufficient condition: no name is another name followed by `_` -/
def prefixFree (names : List (List Char)) : Bool :=
  names.all (fun n1 => names.all (fun n2 => !(n1 ++ ['_']).isPrefixOf n2))

/-- name and component of a function atom -/
def atomName : E → List Char × Option Nat
  | sf n _ => (n.toList, none)
  | vf n _ => (n.toList, none)
  | idx (vf n _) i => (n.toList, some i)
  | _ => ([], none)

theorem symbP_atom (a : E) (h : isFunAtom a = true) (pend : Option (Bool × (Nat × Nat × Nat)))
    (outer : Option (List Char)) :
    symbP pend outer a = .ok (sym (String.ofList
      (withCode (symChars (atomName a).1 (atomName a).2 []) (closeBlock pend outer)))) := by
  cases a with
  | sf n k => rw [symbP]; simp [symChars, atomName, compChars, tailChars]
  | idx b i =>
    cases b with
    | vf n k => rw [symbP]; simp [symChars, atomName, compChars, tailChars]
    | _ => cases h
  | _ => cases h

/-! ### codes are read back unambiguously -/

theorem codeChars_no_underscore (lg : Bool) (n : Nat × Nat × Nat) : '_' ∉ codeChars lg n := by
  obtain ⟨a, b, c⟩ := n
  cases lg
  · simp only [codeChars, Bool.false_eq_true, if_false, List.mem_append, List.mem_replicate]
    rintro ((⟨_, h⟩ | ⟨_, h⟩) | ⟨_, h⟩) <;> exact absurd h (by decide)
  · simp only [codeChars, if_true, List.mem_append, List.mem_flatten, List.mem_replicate]
    rintro ((⟨l, ⟨_, rfl⟩, h⟩ | ⟨l, ⟨_, rfl⟩, h⟩) | ⟨l, ⟨_, rfl⟩, h⟩) <;> simp at h

theorem count_replicate_ne (a b : Char) (k : Nat) (h : a ≠ b) : (List.replicate k a).count b = 0 := by
  simp [List.count_replicate, h]

/-- the multi-index is recovered from a physical code by counting `x`, `y`, `z` -/
theorem code_phys_counts (n : Nat × Nat × Nat) :
    ((codeChars false n).count 'x', (codeChars false n).count 'y', (codeChars false n).count 'z') = n := by
  obtain ⟨a, b, c⟩ := n
  simp [codeChars, List.count_append, List.count_replicate]

theorem count_flatten_pairs (k : Nat) (d e : Char) (he : e ≠ 'x') :
    ((List.replicate k ['x', d]).flatten).count e = if d = e then k else 0 := by
  induction k with
  | zero => simp
  | succ k ih =>
    simp only [List.replicate_succ, List.flatten_cons, List.count_append, ih]
    have hx : ('x' == e) = false := by simpa using Ne.symm he
    by_cases h1 : d = e
    · subst h1; simp [List.count_cons, hx]; omega
    · simp [List.count_cons, hx, h1]

/-- … and from a logical code by counting `1`, `2`, `3` -/
theorem code_logi_counts (n : Nat × Nat × Nat) :
    ((codeChars true n).count '1', (codeChars true n).count '2', (codeChars true n).count '3') = n := by
  obtain ⟨a, b, c⟩ := n
  simp [codeChars, List.count_append, count_flatten_pairs _ _ _ (show ('1' : Char) ≠ 'x' by decide),
    count_flatten_pairs _ _ _ (show ('2' : Char) ≠ 'x' by decide),
    count_flatten_pairs _ _ _ (show ('3' : Char) ≠ 'x' by decide)]

theorem code_phys_no_digit (n : Nat × Nat × Nat) :
    ((codeChars false n).count '1', (codeChars false n).count '2', (codeChars false n).count '3')
      = (0, 0, 0) := by
  obtain ⟨a, b, c⟩ := n
  simp [codeChars, List.count_append, List.count_replicate]

/-- a physical code has no digit, a valid logical code has one -/
theorem code_phys_ne_logi (n1 n2 : Nat × Nat × Nat) (h2 : 0 < n2.1 + n2.2.1 + n2.2.2) :
    codeChars false n1 ≠ codeChars true n2 := by
  intro h
  have c2 := code_logi_counts n2
  rw [← h, code_phys_no_digit] at c2
  rw [← c2] at h2
  exact Nat.lt_irrefl 0 h2

theorem codeChars_inj (b1 b2 : Block) (h1 : b1.valid) (h2 : b2.valid)
    (h : codeChars b1.lg b1.n = codeChars b2.lg b2.n) : b1 = b2 := by
  obtain ⟨lg1, n1⟩ := b1
  obtain ⟨lg2, n2⟩ := b2
  cases lg1 <;> cases lg2
  · rw [← code_phys_counts n1, ← code_phys_counts n2, show codeChars false n1 = _ from h]
  · exact absurd h (code_phys_ne_logi n1 n2 h2)
  · exact absurd h.symm (code_phys_ne_logi n2 n1 h1)
  · rw [← code_logi_counts n1, ← code_logi_counts n2, show codeChars true n1 = _ from h]

theorem codeChars_ne_nil (lg : Bool) (n : Nat × Nat × Nat) (h : 0 < n.1 + n.2.1 + n.2.2) :
    codeChars lg n ≠ [] := by
  intro he
  cases lg
  · have := code_phys_counts n
    rw [he] at this
    rw [← this] at h
    exact Nat.lt_irrefl 0 h
  · have := code_logi_counts n
    rw [he] at this
    rw [← this] at h
    exact Nat.lt_irrefl 0 h

theorem toDigits_inj (i j : Nat) (h : Nat.toDigits 10 i = Nat.toDigits 10 j) : i = j := by
  have := congrArg (fun l => Nat.ofDigitChars 10 l 0) h
  simpa [Nat.ofDigitChars_ten_toDigits] using this

/-- every character of a code is a letter `x`, `y`, `z`, except that a logical code has digits
    at the even places; in particular the first character is a letter -/
theorem code_head_not_digit (b : Block) (d : Char) (r : List Char) (h : codeChars b.lg b.n = d :: r) :
    d.isDigit = false := by
  obtain ⟨lg, a, b', c⟩ := b
  have hx : d = 'x' ∨ d = 'y' ∨ d = 'z' := by
    cases lg
    · have hmem : d ∈ codeChars false (a, b', c) := by rw [h]; simp
      simp only [codeChars, Bool.false_eq_true, if_false, List.mem_append, List.mem_replicate] at hmem
      rcases hmem with (⟨_, h⟩ | ⟨_, h⟩) | ⟨_, h⟩
      · exact Or.inl h
      · exact Or.inr (Or.inl h)
      · exact Or.inr (Or.inr h)
    · -- the first character of a logical code is `x`
      left
      simp only [codeChars, if_true] at h
      cases a with
      | succ k => simp [List.replicate_succ] at h; exact h.1.symm
      | zero =>
        cases b' with
        | succ k => simp [List.replicate_succ] at h; exact h.1.symm
        | zero =>
          cases c with
          | succ k => simp [List.replicate_succ] at h; exact h.1.symm
          | zero => simp at h
  rcases hx with rfl | rfl | rfl <;> decide

theorem code_ne_digits (b : Block) (hv : b.valid) (j : Nat) : codeChars b.lg b.n ≠ Nat.toDigits 10 j := by
  intro h
  cases hc : codeChars b.lg b.n with
  | nil => exact codeChars_ne_nil b.lg b.n hv hc
  | cons x xs =>
    have hd : x.isDigit = true :=
      Nat.isDigit_of_mem_toDigits (b := 10) (n := j) (by decide) (by decide) (by rw [← h, hc]; simp)
    rw [code_head_not_digit b x xs hc] at hd
    cases hd

/-! ### what follows a function name, as a list of segments -/

/-- `_seg₁_seg₂…` -/
def renderSegs (segs : List (List Char)) : List Char := segs.flatMap (fun s => '_' :: s)

theorem renderSegs_form (segs : List (List Char)) :
    renderSegs segs = [] ∨ ∃ r, renderSegs segs = '_' :: r := by
  cases segs with
  | nil => exact Or.inl rfl
  | cons a as => exact Or.inr ⟨_, rfl⟩

/-- splitting at the first underscore: two texts without underscore followed by `_…` or nothing -/
theorem split_at_underscore (a b r s : List Char) (ha : '_' ∉ a) (hb : '_' ∉ b)
    (hr : r = [] ∨ ∃ r', r = '_' :: r') (hs : s = [] ∨ ∃ s', s = '_' :: s') (h : a ++ r = b ++ s) :
    a = b ∧ r = s := by
  induction a generalizing b with
  | nil =>
    cases b with
    | nil => exact ⟨rfl, h⟩
    | cons y b =>
      exfalso
      rcases hr with rfl | ⟨r', rfl⟩
      · cases h
      · injection h with h1 _
        exact hb (by simp [← h1])
  | cons x a ih =>
    cases b with
    | nil =>
      exfalso
      rcases hs with rfl | ⟨s', rfl⟩
      · cases h
      · injection h with h1 _
        exact ha (by simp [h1])
    | cons y b =>
      injection h with h1 h2
      obtain ⟨e1, e2⟩ := ih b (fun hm => ha (by simp [hm])) (fun hm => hb (by simp [hm])) h2
      exact ⟨by rw [h1, e1], e2⟩

theorem renderSegs_inj (A B : List (List Char)) (hA : ∀ a ∈ A, '_' ∉ a) (hB : ∀ b ∈ B, '_' ∉ b)
    (h : renderSegs A = renderSegs B) : A = B := by
  induction A generalizing B with
  | nil =>
    cases B with
    | nil => rfl
    | cons b B => cases h
  | cons a A ih =>
    cases B with
    | nil => cases h
    | cons b B =>
      injection h with _ h
      obtain ⟨e1, e2⟩ := split_at_underscore a b _ _ (hA a (by simp)) (hB b (by simp))
        (renderSegs_form A) (renderSegs_form B) h
      rw [e1, ih B (fun x hx => hA x (by simp [hx])) (fun x hx => hB x (by simp [hx])) e2]

theorem split_first_underscore (r : List Char) :
    '_' ∉ r ∨ ∃ r0 r2, r = r0 ++ '_' :: r2 ∧ '_' ∉ r0 := by
  induction r with
  | nil => exact Or.inl (by simp)
  | cons x xs ih =>
    by_cases hx : x = '_'
    · exact Or.inr ⟨[], xs, by simp [hx], by simp⟩
    · rcases ih with h | ⟨r0, r2, h1, h2⟩
      · exact Or.inl (by simp [h, Ne.symm hx])
      · exact Or.inr ⟨x :: r0, r2, by simp [h1], by simp [h2, Ne.symm hx]⟩

theorem renderSegs_prefix (A B : List (List Char)) (r : List Char) (hA : ∀ a ∈ A, '_' ∉ a)
    (h : renderSegs A = r ++ renderSegs B) : ∃ P Q, A = P ++ Q ∧ r = renderSegs P := by
  induction A generalizing r with
  | nil =>
    have : r = [] := (List.append_eq_nil_iff.mp h.symm).1
    exact ⟨[], [], rfl, this⟩
  | cons a A ih =>
    cases r with
    | nil => exact ⟨[], a :: A, rfl, rfl⟩
    | cons x r' =>
      simp only [renderSegs, List.flatMap_cons, List.cons_append] at h
      injection h with hx h
      have ha := hA a (by simp)
      have hA' : ∀ b ∈ A, '_' ∉ b := fun b hb => hA b (by simp [hb])
      rcases split_first_underscore r' with hr | ⟨r0, r2, hr, hr0⟩
      · obtain ⟨e1, e2⟩ := split_at_underscore a r' _ _ ha hr (renderSegs_form A) (renderSegs_form B) h
        exact ⟨[a], A, rfl, by simp [renderSegs, ← hx, e1]⟩
      · rw [hr, List.append_assoc] at h
        obtain ⟨e1, e2⟩ := split_at_underscore a r0 _ _ ha hr0 (renderSegs_form A)
          (Or.inr ⟨_, rfl⟩) h
        obtain ⟨P, Q, hPQ, hP⟩ := ih ('_' :: r2) hA' (by simpa [renderSegs] using e2)
        refine ⟨a :: P, Q, by simp [hPQ], ?_⟩
        simp only [renderSegs, List.flatMap_cons] at hP ⊢
        rw [← hx, hr, ← e1, ← hP]
        simp

/-- the segments of what follows a function name -/
def segsOf (c : Option Nat) (bs : List Block) : List (List Char) :=
  (match c with | none => [] | some i => [Nat.toDigits 10 i]) ++ bs.map (fun b => codeChars b.lg b.n)

theorem tailChars_eq (bs : List Block) : tailChars bs = renderSegs (bs.map (fun b => codeChars b.lg b.n)) := by
  induction bs with
  | nil => rfl
  | cons b bs ih => simp [tailChars, renderSegs, ih]

theorem suffix_eq_render (c : Option Nat) (bs : List Block) :
    compChars c ++ tailChars bs = renderSegs (segsOf c bs) := by
  cases c <;> simp [compChars, segsOf, tailChars_eq, renderSegs]

theorem segsOf_no_underscore (c : Option Nat) (bs : List Block) : ∀ a ∈ segsOf c bs, '_' ∉ a := by
  intro a ha
  simp only [segsOf, List.mem_append, List.mem_map] at ha
  rcases ha with ha | ⟨b, _, rfl⟩
  · cases c with
    | none => simp at ha
    | some i => simp at ha; subst ha; exact Nat.underscore_not_in_toDigits
  · exact codeChars_no_underscore _ _

theorem codes_inj (bs1 bs2 : List Block) (h1 : ∀ b ∈ bs1, b.valid) (h2 : ∀ b ∈ bs2, b.valid)
    (h : bs1.map (fun b => codeChars b.lg b.n) = bs2.map (fun b => codeChars b.lg b.n)) :
    bs1 = bs2 := by
  induction bs1 generalizing bs2 with
  | nil =>
    cases bs2 with
    | nil => rfl
    | cons b bs => cases h
  | cons b1 bs1 ih =>
    cases bs2 with
    | nil => cases h
    | cons b2 bs2 =>
      injection h with e1 e2
      rw [codeChars_inj b1 b2 (h1 b1 (by simp)) (h2 b2 (by simp)) e1,
        ih bs2 (fun b hb => h1 b (by simp [hb])) (fun b hb => h2 b (by simp [hb])) e2]

theorem suffix_inj (c1 c2 : Option Nat) (bs1 bs2 : List Block) (h1 : ∀ b ∈ bs1, b.valid)
    (h2 : ∀ b ∈ bs2, b.valid) (h : compChars c1 ++ tailChars bs1 = compChars c2 ++ tailChars bs2) :
    c1 = c2 ∧ bs1 = bs2 := by
  rw [suffix_eq_render, suffix_eq_render] at h
  have hs := renderSegs_inj _ _ (segsOf_no_underscore c1 bs1) (segsOf_no_underscore c2 bs2) h
  -- a first segment that is a numeral is a component, one that is a code is a block
  cases c1 with
  | none =>
    cases c2 with
    | none => exact ⟨rfl, codes_inj bs1 bs2 h1 h2 hs⟩
    | some j =>
      cases bs1 with
      | nil => cases hs
      | cons b bs =>
        injection hs with e _
        exact absurd e (code_ne_digits b (h1 b (by simp)) j)
  | some i =>
    cases c2 with
    | none =>
      cases bs2 with
      | nil => cases hs
      | cons b bs =>
        injection hs with e _
        exact absurd e.symm (code_ne_digits b (h2 b (by simp)) i)
    | some j =>
      injection hs with e1 e2
      exact ⟨by rw [toDigits_inj i j e1], codes_inj bs1 bs2 h1 h2 e2⟩

theorem prefix_isSuffix (c : Option Nat) (bs : List Block) (hv : ∀ b ∈ bs, b.valid)
    (P Q : List (List Char)) (h : segsOf c bs = P ++ Q) (hP : P ≠ []) : IsSuffix (renderSegs P) := by
  cases c with
  | none =>
    simp only [segsOf, List.nil_append] at h
    obtain ⟨l1, l2, hbs, h1, h2⟩ := List.map_eq_append_iff.mp h
    refine ⟨none, l1, Or.inr ?_, fun b hb => hv b (by rw [hbs]; simp [hb]), ?_⟩
    · intro he; subst he; simp at h1; exact hP h1
    · rw [suffix_eq_render]; simp [segsOf, h1]
  | some i =>
    cases P with
    | nil => exact absurd rfl hP
    | cons p P' =>
      simp only [segsOf, List.cons_append, List.nil_append, List.cons.injEq] at h
      obtain ⟨hp, h⟩ := h
      obtain ⟨l1, l2, hbs, h1, h2⟩ := List.map_eq_append_iff.mp h
      refine ⟨some i, l1, Or.inl (by simp), fun b hb => hv b (by rw [hbs]; simp [hb]), ?_⟩
      rw [suffix_eq_render]; simp [segsOf, h1, hp]

/-! ### chains made of several blocks -/

/-- blocks of coordinates, outermost first, applied to `a` -/
def mkBlocks : List (Bool × List Coord) → E → E
  | [], a => a
  | (_, cs) :: rest, a => mkChain cs (mkBlocks rest a)

/-- every block is non-empty and of one kind, neighbouring blocks are of different kinds -/
def BlocksOK : List (Bool × List Coord) → Prop
  | [] => True
  | [(lg, cs)] => cs ≠ [] ∧ pureKind lg cs
  | (lg, cs) :: (lg', cs') :: rest => cs ≠ [] ∧ pureKind lg cs ∧ lg' ≠ lg ∧ BlocksOK ((lg', cs') :: rest)

def toBlock (b : Bool × List Coord) : Block := ⟨b.1, countFrom (0, 0, 0) b.2⟩

theorem BlocksOK_head (lg : Bool) (cs : List Coord) (rest : List (Bool × List Coord))
    (h : BlocksOK ((lg, cs) :: rest)) : cs ≠ [] ∧ pureKind lg cs := by
  cases rest with
  | nil => exact h
  | cons b' rest' => exact ⟨h.1, h.2.1⟩

theorem tailChars_append (l : List Block) (b : Block) :
    tailChars (l ++ [b]) = tailChars l ++ '_' :: codeChars b.lg b.n := by
  induction l with
  | nil => simp [tailChars]
  | cons x l ih => simp [tailChars, ih]

def outerSuffix : Option (List Char) → List Char
  | none => []
  | some o => '_' :: o

theorem withCode_eq (name : List Char) (outer : Option (List Char)) (ho : ∀ o, outer = some o → o ≠ []) :
    withCode name outer = name ++ outerSuffix outer := by
  cases outer with
  | none => exact (List.append_nil _).symm
  | some o =>
    have : o.isEmpty = false := by simpa using ho o rfl
    simp [withCode, outerSuffix, this]

theorem joinCode_eq (own : List Char) (outer : Option (List Char)) (ho : ∀ o, outer = some o → o ≠ []) :
    joinCode own outer = own ++ outerSuffix outer := by
  cases outer with
  | none => exact (List.append_nil _).symm
  | some o =>
    have : o.isEmpty = false := by simpa using ho o rfl
    simp [joinCode, outerSuffix, this]

theorem symbP_blocks (bl : List (Bool × List Coord)) (hok : BlocksOK bl) (a : E) (ha : isFunAtom a = true)
    (outer : Option (List Char)) (ho : ∀ o, outer = some o → o ≠ []) :
    symbP none outer (mkBlocks bl a)
      = .ok (sym (String.ofList
          (symChars (atomName a).1 (atomName a).2 (bl.reverse.map toBlock) ++ outerSuffix outer))) := by
  induction bl generalizing outer with
  | nil => rw [mkBlocks, symbP_atom a ha, closeBlock, withCode_eq _ _ ho]; rfl
  | cons b rest ih =>
    obtain ⟨lg, cs⟩ := b
    obtain ⟨hne, hp⟩ := BlocksOK_head lg cs rest hok
    -- the code in force below this block: its own code in front of the outer one
    have hcode := codeChars_ne_nil lg (countFrom (0, 0, 0) cs) (countFrom_pos cs hne)
    have hjoin := joinCode_eq (codeChars lg (countFrom (0, 0, 0) cs)) outer ho
    have hjne : ∀ o, some (joinCode (codeChars lg (countFrom (0, 0, 0) cs)) outer) = some o → o ≠ [] := by
      intro o ho'
      injection ho' with ho'
      rw [← ho', hjoin]
      simp [hcode]
    have hchars : symChars (atomName a).1 (atomName a).2 (rest.reverse.map toBlock)
          ++ outerSuffix (some (joinCode (codeChars lg (countFrom (0, 0, 0) cs)) outer))
        = symChars (atomName a).1 (atomName a).2 (((lg, cs) :: rest).reverse.map toBlock)
          ++ outerSuffix outer := by
      simp [symChars, tailChars_append, toBlock, outerSuffix, hjoin]
    rw [mkBlocks, symbP_pure_head lg cs hne hp, ← hchars]
    cases rest with
    | nil => rw [mkBlocks, symbP_atom a ha, closeBlock, withCode_eq _ _ hjne]; rfl
    | cons b' rest' =>
      obtain ⟨lg', cs'⟩ := b'
      obtain ⟨_, _, hne', hok'⟩ := hok
      obtain ⟨hne2, hp2⟩ := BlocksOK_head lg' cs' rest' hok'
      rw [← ih hok' _ hjne]
      -- the next block is of the other kind: it closes the pending one
      cases cs' with
      | nil => exact absurd rfl hne2
      | cons c' cs'' =>
        rw [mkBlocks, mkChain, List.foldr_cons,
          symbP_switch lg _ c' (by rw [hp2 c' (by simp)]; exact hne'), symbP_open]

/-! ### lists of expressions -/

theorem symbList_cons (code : Option (List Char)) (a s : E) (as ss : List E) :
    symbList code (a :: as) = .ok (s :: ss) ↔
      symbP none code a = .ok s ∧ symbList code as = .ok ss := by
  rw [symbList]
  cases symbP none code a <;> cases symbList code as <;> simp

theorem symbList_spec (code : Option (List Char)) (as ss : List E) :
    symbList code as = .ok ss ↔
      as.length = ss.length ∧ ∀ i (hi : i < as.length) (hj : i < ss.length), symbP none code as[i] = .ok ss[i] := by
  induction as generalizing ss with
  | nil => cases ss <;> simp [symbList]
  | cons a as ih =>
    cases ss with
    | nil =>
      rw [symbList]
      cases symbP none code a <;> cases symbList code as <;> simp
    | cons s ss =>
      rw [symbList_cons, ih ss]
      constructor
      · rintro ⟨h0, hl, h⟩
        refine ⟨by rw [List.length_cons, List.length_cons, hl], fun i hi hj => ?_⟩
        cases i with
        | zero => exact h0
        | succ i => exact h i (Nat.lt_of_succ_lt_succ hi) (Nat.lt_of_succ_lt_succ hj)
      · rintro ⟨hl, h⟩
        exact ⟨h 0 (Nat.zero_lt_succ _) (Nat.zero_lt_succ _), Nat.succ.inj hl,
          fun i hi hj => h (i + 1) (Nat.succ_lt_succ hi) (Nat.succ_lt_succ hj)⟩

end Sympde.Atoms

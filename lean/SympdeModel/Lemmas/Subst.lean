/-
  Structural equality and simultaneous substitution (Model/Subst.lean): `eqb` decides equality
  (it is the `==` of `E`), `lookup` finds pairs of the rule, and `subst` leaves alone what no key
  occurs in.
-/
import SympdeModel.Model.Subst
import SympdeModel.Lemmas.ExprEq
namespace Sympde.Sub
open E

/-- `eqb` is the `==` of `E` (`E.beq`, Model/Expr.lean), equation for equation: induction along the
    recursion of `eqb`, one case per equation. -/
theorem eqb_eq_beq (a b : E) : eqb a b = (a == b) := by
  show eqb a b = E.beq a b
  induction a, b using eqb.induct (motive_2 := fun as bs => eqbList as bs = E.beqList as bs) with
  | case18 t x h1 h2 h3 h4 h5 h6 h7 h8 h9 h10 h11 h12 h13 h14 h15 h16 h17 =>
    -- different constructors: both fall through to `false`
    rw [eqb.eq_18 t x h1 h2 h3 h4 h5 h6 h7 h8 h9 h10 h11 h12 h13 h14 h15 h16 h17,
      E.beq.eq_18 t x h1 h2 h3 h4 h5 h6 h7 h8 h9 h10 h11 h12 h13 h14 h15 h16 h17]
  | case19 => rfl
  | case20 a as b bs iha ihas => rw [eqbList, E.beqList, iha, ihas]
  | case21 t x h1 h2 => rw [eqbList.eq_3 t x h1 h2, E.beqList.eq_3 t x h1 h2]
  | _ => simp only [eqb, E.beq, *]

theorem eqb_eq (a b : E) (h : eqb a b = true) : a = b :=
  E.eq_of_beq ((eqb_eq_beq a b).symm.trans h)

theorem eqb_refl (a : E) : eqb a a = true :=
  (eqb_eq_beq a a).trans (E.beq_refl a)

theorem eqb_iff (a b : E) : eqb a b = true ↔ a = b :=
  ⟨eqb_eq a b, fun h => h ▸ eqb_refl a⟩

theorem lookup_some {σ : Rule} {e v : E} (h : lookup σ e = some v) : (e, v) ∈ σ := by
  induction σ with
  | nil => simp [lookup] at h
  | cons p rest ih =>
    obtain ⟨k, w⟩ := p
    simp only [lookup] at h
    split at h
    · rename_i hk
      injection h with h
      rw [eqb_eq k e hk, h]; simp
    · exact List.mem_cons_of_mem _ (ih h)

theorem substList_eq (σ : Rule) (as : List E) : substList σ as = as.map (subst σ) := by
  induction as with
  | nil => rfl
  | cons a as ih => simp [substList, ih]

theorem occursList_eq (ks : List E) (as : List E) : occursList ks as = as.any (occurs ks) := by
  induction as with
  | nil => rfl
  | cons a as ih => simp [occursList, ih]

theorem lookup_none_of_not_key {σ : Rule} {e : E} (h : (σ.map (·.1)).any (eqb · e) = false) :
    lookup σ e = none := by
  induction σ with
  | nil => rfl
  | cons p rest ih =>
    obtain ⟨k, w⟩ := p
    simp only [List.map_cons, List.any_cons, Bool.or_eq_false_iff] at h
    simp [lookup, h.1, ih h.2]

theorem subst_of_not_occurs (σ : Rule) (e : E) (h : occurs (σ.map (·.1)) e = false) : subst σ e = e := by
  induction e using E.rec
    (motive_2 := fun as => occursList (σ.map (·.1)) as = false → substList σ as = as) with
  | nil => rfl
  | cons a as iha ihas =>
    rename_i h
    simp only [occursList, Bool.or_eq_false_iff] at h
    rw [substList, iha h.1, ihas h.2]
  | _ =>
    -- the node is not a key, and by induction its arguments are rebuilt unchanged
    simp only [occurs, Bool.or_eq_false_iff] at h
    simp only [subst, lookup_none_of_not_key, Option.getD_none, *]

theorem subst_id (σ : Rule) (hid : ∀ p ∈ σ, p.1 = p.2) (e : E) : subst σ e = e := by
  have key : ∀ t : E, (lookup σ t).getD t = t := by
    intro t
    cases h : lookup σ t with
    | none => rfl
    | some v => exact (hid _ (lookup_some h)).symm
  induction e using E.rec (motive_2 := fun as => substList σ as = as) with
  | nil => rfl
  | cons a as iha ihas => rw [substList, iha, ihas]
  | _ => simp only [subst, *]

end Sympde.Sub

/-
  The two-sided meaning `denI` (Sem/DenI.lean) of the interface operators: its recursive
  equations, the operators as operations `opI` on the pair of values on the two sides, and the
  product rules of Jump / Average / Minus / Plus / Dn (put together in Props/C02c.lean).
-/
import SympdeModel.Sem.DenI
import SympdeModel.Lemmas.Calc2
namespace Sympde
open E Calc
open DRing (sumN sumN_add sumN_mul_left sumN_congr sumN_zero)

variable {K : Type} [CommRing K] [Algebra ℚ K]
variable (S : DRing K) (d : Nat) (lg : Bool)

/-! ### the recursive equations of `denI` -/

theorem elimList_eq (d : Nat) (lg : Bool) (s : Side) (as : List E) :
    elimList d lg s as = as.map (elim d lg s) :=
  eq_map_of_eqns _ _ rfl (fun _ _ => rfl) as

theorem denGSum_elim (s : Side) (as : List E) (i j : Nat) :
    denGSum S d lg (elimList d lg s as) i j = (as.map (fun a => denI S d lg s a i j)).sum := by
  rw [denGSum_eq, elimList_eq, List.map_map]; rfl

theorem denGProd_elim (s : Side) (as : List E) (i j : Nat) :
    denGProd S d lg (elimList d lg s as) i j = (as.map (fun a => denI S d lg s a i j)).prod := by
  rw [denGProd_eq, elimList_eq, List.map_map]; rfl

theorem denI_add (s : Side) (as : List E) (i j : Nat) :
    denI S d lg s (add as) i j = (as.map (fun a => denI S d lg s a i j)).sum := by
  simp only [denI, elim, denG, denGSum_elim]

theorem denI_mul (s : Side) (as : List E) (i j : Nat) :
    denI S d lg s (mul as) i j = (as.map (fun a => denI S d lg s a i j)).prod := by
  simp only [denI, elim, denG, denGProd_elim]

/-- a scalar function has an independent value on each side -/
theorem denI_sf (S : DRing K) (d : Nat) (lg : Bool) (s : Side) (n : String) (k : Kind) (i j : Nat) :
    denI S d lg s (sf n k) i j = S.sf (s.tag ++ n) := by
  simp only [denI, elim, denG]

theorem denI_minus (s : Side) (a : E) (i j : Nat) :
    denI S d lg s (op1 .minus a) i j = denI S d lg .m a i j := by
  simp only [denI, elim]

theorem denI_plus (s : Side) (a : E) (i j : Nat) :
    denI S d lg s (op1 .plus a) i j = denI S d lg .p a i j := by
  simp only [denI, elim]

theorem denI_jump (s : Side) (a : E) (i j : Nat) :
    denI S d lg s (op1 .jump a) i j = denI S d lg .m a i j - denI S d lg .p a i j := by
  simp only [denI, elim, denG, denGSum, denGProd]
  simp
  ring

def halfK (K : Type) [CommRing K] [Algebra ℚ K] : K := algebraMap ℚ K (1 / 2)

theorem halfK_two : (halfK K) * 2 = 1 := by
  unfold halfK
  have : (2 : K) = algebraMap ℚ K 2 := (map_ofNat (algebraMap ℚ K) 2).symm
  rw [this, ← map_mul]
  norm_num

theorem denI_avg (s : Side) (a : E) (i j : Nat) :
    denI S d lg s (op1 .avg a) i j = halfK K * (denI S d lg .m a i j + denI S d lg .p a i j) := by
  simp only [denI, elim, denG, denGSum, denGProd, halfK]
  simp

/-- k-th component of the normal of side `s` -/
def nVal (S : DRing K) (s : Side) (k : Nat) : K :=
  S.sf (s.ntag ++ toString k)

theorem denG_nComp (s : Side) (k i j : Nat) :
    denG S d lg (nComp s k) i j = nVal S s k := by
  simp only [nComp, denG, nVal]

theorem denGSum_range (f : Nat → E) (n i j : Nat) :
    denGSum S d lg ((List.range n).map f) i j = sumN n (fun k => denG S d lg (f k) i j) := by
  induction n with
  | zero => simp [denGSum, sumN]
  | succ n ih =>
    rw [List.range_succ, List.map_append, denGSum_append, ih]
    simp only [List.map, denGSum, sumN, add_zero]

theorem denI_dn (s : Side) (a : E) (i j : Nat) :
    denI S d lg s (op1 .dn a) i j
      = sumN d (fun k => nVal S s k * Di S lg k (denI S d lg s a i j)) := by
  simp only [denI, elim, dnTree, denG]
  rw [denGSum_range]
  apply sumN_congr
  intro k _
  simp only [denG, denGProd, mul_one, nComp, nVal, Di]

theorem denGNth_range (f : Nat → E) (n i : Nat) :
    denGNth S d lg ((List.range n).map f) i = if i < n then denG S d lg (f i) 0 0 else 0 := by
  have key : ∀ (l : List Nat) (i : Nat), denGNth S d lg (l.map f) i
      = if h : i < l.length then denG S d lg (f (l[i])) 0 0 else 0 := by
    intro l
    induction l with
    | nil => intro i; simp [denGNth]
    | cons x xs ih =>
      intro i
      cases i with
      | zero => simp [denGNth]
      | succ i => simp [denGNth, ih]
  rw [key]
  simp

theorem denG_nVec (s : Side) (i j : Nat) :
    denG S d lg (nVec d s) i j = if i < d then nVal S s i else 0 := by
  simp only [nVec, denG]
  rw [denGNth_range]
  simp only [denG_nComp]

theorem denI_normal (s : Side) (i j : Nat) :
    denI S d lg s (normal "NormalVector:n") i j = (if i < d then nVal S s i else 0)
    ∧ denI S d lg s (normal "MinusNormalVector:n") i j = (if i < d then nVal S .m i else 0)
    ∧ denI S d lg s (normal "PlusNormalVector:n") i j = (if i < d then nVal S .p i else 0) := by
  refine ⟨?_, ?_, ?_⟩ <;> simp [denI, elim, denG_nVec]

/-! ### the interface operators on pairs of values -/

/-- what the interface operator `k` does to the pair `v` of values (of one component) on the
    two sides, seen from side `s` -/
def opI (S : DRing K) (d : Nat) (lg : Bool) (k : IK) (v : Side → K) (s : Side) : K :=
  match k with
  | .minus => v .m
  | .plus => v .p
  | .jump => v .m - v .p
  | .avg => halfK K * (v .m + v .p)
  | .dn => sumN d (fun c => nVal S s c * Di S lg c (v s))

theorem denI_op (k : IK) (a : E) (s : Side) (i j : Nat) :
    denI S d lg s (op1 k.op a) i j = opI S d lg k (fun s' => denI S d lg s' a i j) s := by
  cases k <;> simp only [IK.op, opI]
  · exact denI_jump S d lg s a i j
  · exact denI_avg S d lg s a i j
  · exact denI_minus S d lg s a i j
  · exact denI_plus S d lg s a i j
  · exact denI_dn S d lg s a i j

def dnK (S : DRing K) (d : Nat) (lg : Bool) (s : Side) (x : K) : K :=
  sumN d (fun c => nVal S s c * Di S lg c x)

theorem dnK_deriv (s : Side) : Deriv (dnK S d lg s) where
  add := by
    intro x y; simp only [dnK, Di_add]; rw [← sumN_add]; apply sumN_congr; intro c _; ring
  mul := by
    intro x y; simp only [dnK, Di_mul]
    rw [← sumN_mul_left, ← sumN_mul_right, ← sumN_add]
    apply sumN_congr; intro c _; ring

theorem opI_add (k : IK) (v w : Side → K) (s : Side) :
    opI S d lg k (fun s' => v s' + w s') s = opI S d lg k v s + opI S d lg k w s := by
  cases k <;> simp only [opI]
  · ring
  · ring
  · exact (dnK_deriv S d lg s).add _ _

theorem opI_zero (k : IK) (s : Side) :
    opI S d lg k (fun _ => 0) s = 0 := by
  cases k <;> simp only [opI]
  · ring
  · ring
  · exact (dnK_deriv S d lg s).zero

theorem opI_sum (k : IK) (s : Side) {α : Type} (l : List α)
    (v : α → Side → K) :
    opI S d lg k (fun s' => (l.map (fun a => v a s')).sum) s
      = (l.map (fun a => opI S d lg k (v a) s)).sum := by
  induction l with
  | nil => simp only [List.map, List.sum_nil]; exact opI_zero S d lg k s
  | cons a l ih =>
    simp only [List.map, List.sum_cons]
    rw [opI_add S d lg k (v a) (fun s' => (l.map (fun a => v a s')).sum), ih]

theorem opI_smul (k : IK) (c : K) (hc : ∀ m, Di S lg m c = 0)
    (v : Side → K) (s : Side) :
    opI S d lg k (fun s' => c * v s') s = c * opI S d lg k v s := by
  cases k <;> simp only [opI]
  · ring
  · ring
  · rw [← sumN_mul_left]; apply sumN_congr; intro m _
    rw [Di_smul S lg m c _ (hc m)]; ring

/-- jump and average of a product:  [vw] = {v}[w] + [v]{w},  {vw} = {v}{w} + [v][w]/4 -/
theorem jump_mul (v w : Side → K) :
    (v .m * w .m - v .p * w .p)
      = halfK K * (v .m + v .p) * (w .m - w .p) + (v .m - v .p) * (halfK K * (w .m + w .p)) := by
  have h := halfK_two (K := K)
  linear_combination (- (v .m * w .m - v .p * w .p)) * h

theorem avg_mul (v w : Side → K) :
    halfK K * (v .m * w .m + v .p * w .p)
      = halfK K * (v .m + v .p) * (halfK K * (w .m + w .p))
        + halfK K * halfK K * ((v .m - v .p) * (w .m - w .p)) := by
  have h := halfK_two (K := K)
  linear_combination (- halfK K * (v .m * w .m + v .p * w .p)) * h

/-! ### lists of factors and their evaluated operators -/

theorem ifaceEvalListE_eq (k : IK) (as : List E) :
    ifaceEvalListE d k as = as.map (ifaceEval d k) :=
  eq_map_of_eqns _ _ rfl (fun _ _ => rfl) as

theorem ifaceEvalList_eq (k : IK) (as : List E) :
    ifaceEvalList d k as = as.mapM (ifaceEval d k) := by
  induction as with
  | nil => rw [List.mapM_nil]; rfl
  | cons a as ih => rw [ifaceEvalList, ih, List.mapM_cons]; rfl

theorem pick_eq (ev : E → Except Err E) (as : List E) :
    ((as.zip (as.map ev)).filter (fun p => !isCoef p.1)).map (fun p => (p.1, okOrNone p.2))
      = (as.filter (fun x => !isCoef x)).map (fun f => (f, okOrNone (ev f))) := by
  rw [zip_map_filter (fun x => !isCoef x), List.map_map]; rfl

def okVal : Except Err E → E
  | .ok r => r
  | .error _ => zero

theorem allSome_spec (ev : E → Except Err E) (vs : List E) (rs : List (E × E))
    (h : allSome (vs.map (fun f => (f, okOrNone (ev f)))) = some rs) :
    rs = vs.map (fun f => (f, okVal (ev f))) ∧ ∀ f ∈ vs, ev f = .ok (okVal (ev f)) := by
  induction vs generalizing rs with
  | nil =>
    injection h with h; subst h
    exact ⟨rfl, fun f hf => nomatch hf⟩
  | cons f vs ih =>
    cases hf : ev f with
    | error e =>
      simp only [List.map, hf] at h
      change allSome ((f, none) :: _) = _ at h
      cases h
    | ok r =>
      simp only [List.map, hf] at h
      change allSome ((f, some r) :: _) = _ at h
      simp only [allSome] at h
      cases hrest : allSome (vs.map (fun f => (f, okOrNone (ev f)))) with
      | none => rw [hrest] at h; cases h
      | some rs' =>
        rw [hrest] at h
        injection h with h; subst h
        obtain ⟨h1, h2⟩ := ih rs' hrest
        refine ⟨by rw [h1, List.map, hf]; rfl, fun g hg => ?_⟩
        rcases List.mem_cons.mp hg with rfl | hg
        · rw [hf]; rfl
        · exact h2 g hg

theorem elim_mulOf (s : Side) (l : List E) :
    elim d lg s (Calc.mulOf l) = Calc.mulOf (elimList d lg s l) := by
  match l with
  | [] => simp [Calc.mulOf, PD.mulOf, elimList, elim, E.one]
  | [a] => simp [Calc.mulOf, PD.mulOf, elimList]
  | a :: b :: rest => simp [Calc.mulOf, PD.mulOf, elimList, elim]

theorem denI_mulOf (s : Side) (l : List E) (i j : Nat) :
    denI S d lg s (Calc.mulOf l) i j = (l.map (fun a => denI S d lg s a i j)).prod := by
  simp only [denI, elim_mulOf, denG_mulOf, denGProd_elim]

theorem denI_zero (s : Side) (i j : Nat) :
    denI S d lg s E.zero i j = 0 := by simp [denI, elim, E.zero, denG]

theorem denI_one (s : Side) (i j : Nat) :
    denI S d lg s E.one i j = 1 := by simp [denI, elim, E.one, denG]

theorem denI_mul2 (s : Side) (x y : E) (i j : Nat) :
    denI S d lg s (mul [x, y]) i j = denI S d lg s x i j * denI S d lg s y i j := by
  simp [denI_mul]

theorem denI_add2 (s : Side) (x y : E) (i j : Nat) :
    denI S d lg s (add [x, y]) i j = denI S d lg s x i j + denI S d lg s y i j := by
  simp [denI_add]

theorem denI_coef (x : E) (h : PD.isCoef x = true) (s : Side)
    (i j : Nat) :
    denI S d lg s x i j = denI S d lg .m x 0 0 ∧ ∀ m, Di S lg m (denI S d lg .m x 0 0) = 0 := by
  cases x with
  | num p q => exact ⟨rfl, fun m => S.D_rat _ _⟩
  | cst n => exact ⟨rfl, fun m => S.D_cst _ _⟩
  | _ => exact Bool.noConfusion h

/-! ### product rules -/

theorem sideProd_sound (s : Side) (i j : Nat)
    (vs : List E) (R : E → E) (W : E → K) (hr : ∀ f ∈ vs, denI S d lg s (R f) i j = W f) :
    denI S d lg s (sideProd (vs.map (fun f => (f, R f)))) i j = (vs.map W).prod := by
  induction vs with
  | nil => simp [sideProd, denI_one]
  | cons f rest ih =>
    cases rest with
    | nil => simp only [sideProd, List.map, List.prod_cons, List.prod_nil, mul_one]; exact hr f (by simp)
    | cons q rest' =>
      simp only [List.map, sideProd] at ih ⊢
      rw [denI_mul2, hr f (by simp), ih (fun g hg => hr g (by simp [hg]))]
      simp only [List.prod_cons]

theorem dnProd_sound (s : Side) (i j : Nat) {δ : K → K}
    (hδ : Deriv δ) (vs : List E) (R : E → E)
    (hr : ∀ f ∈ vs, denI S d lg s (R f) i j = δ (denI S d lg s f i j)) :
    denI S d lg s (dnProd (vs.map (fun f => (f, R f)))) i j
      = δ ((vs.map (fun f => denI S d lg s f i j)).prod) := by
  induction vs with
  | nil => simp [dnProd, denI_zero, hδ.one]
  | cons f rest ih =>
    cases rest with
    | nil => simp only [dnProd, List.map, List.prod_cons, List.prod_nil, mul_one]; exact hr f (by simp)
    | cons q rest' =>
      have hm := map_fst_pair R (q :: rest')
      simp only [List.map, dnProd] at ih hm ⊢
      rw [denI_add2, denI_mul2, denI_mul2, hr f (by simp), ih (fun g hg => hr g (by simp [hg])), hm,
        denI_mulOf]
      simp only [List.map, List.prod_cons]
      rw [hδ.mul (denI S d lg s f i j)]

theorem denI_quarter (s : Side) (i j : Nat) :
    denI S d lg s quarter i j = halfK K * halfK K := by
  simp only [denI, quarter, elim, denG, halfK]
  rw [← map_mul]
  norm_num

/-- jump and average of a product, from the jumps `J` and averages `A` of the factors -/
theorem jaProd_sound (s : Side) (i j : Nat)
    (vs : List E) (J A : E → E) (v : E → Side → K)
    (ht : ∀ f ∈ vs, denI S d lg s (J f) i j = v f .m - v f .p
      ∧ denI S d lg s (A f) i j = halfK K * (v f .m + v f .p)) :
    denI S d lg s (jaProd (vs.map (fun f => (f, J f, A f)))).1 i j
        = (vs.map (fun f => v f .m)).prod - (vs.map (fun f => v f .p)).prod
    ∧ denI S d lg s (jaProd (vs.map (fun f => (f, J f, A f)))).2 i j
        = halfK K * ((vs.map (fun f => v f .m)).prod + (vs.map (fun f => v f .p)).prod) := by
  induction vs with
  | nil =>
    simp only [jaProd, List.map, List.prod_nil, denI_zero, denI_one]
    have h := halfK_two (K := K)
    constructor
    · ring
    · linear_combination -h
  | cons f rest ih =>
    have hf := ht f (by simp)
    cases rest with
    | nil =>
      simp only [jaProd, List.map, List.prod_cons, List.prod_nil, mul_one]
      exact hf
    | cons q rest' =>
      have ih' := ih (fun g hg => ht g (by simp [hg]))
      simp only [List.map, jaProd] at ih' ⊢
      cases hja : jaProd ((q, J q, A q) :: rest'.map (fun f => (f, J f, A f))) with
      | mk jr ar =>
        rw [hja] at ih'
        simp only [List.prod_cons] at ih' ⊢
        -- the product of the values of the remaining factors on each side
        have hj := jump_mul (K := K) (v f)
          (fun s' => match s' with
            | .m => v q .m * (rest'.map (fun f => v f .m)).prod
            | .p => v q .p * (rest'.map (fun f => v f .p)).prod)
        have ha := avg_mul (K := K) (v f)
          (fun s' => match s' with
            | .m => v q .m * (rest'.map (fun f => v f .m)).prod
            | .p => v q .p * (rest'.map (fun f => v f .p)).prod)
        simp only at hj ha
        constructor
        · rw [denI_add2, denI_mul2, denI_mul2, hf.1, hf.2, ih'.1, ih'.2, hj]
        · rw [denI_add2, denI_mul2, denI_mul]
          simp only [List.map, List.prod_cons, List.prod_nil, mul_one]
          rw [hf.2, ih'.2, denI_quarter, hf.1, ih'.1, ha]

/-! ### the branches of `ifaceEval` -/

theorem denGNth_congr (l l' : List E)
    (h : l.map (fun a => denG S d lg a 0 0) = l'.map (fun a => denG S d lg a 0 0)) (n : Nat) :
    denGNth S d lg l n = denGNth S d lg l' n := by
  induction l generalizing l' n with
  | nil =>
    cases l' with
    | nil => rfl
    | cons b l' => cases h
  | cons a l ih =>
    cases l' with
    | nil => cases h
    | cons b l' =>
      injection h with h1 h2
      cases n with
      | zero => exact h1
      | succ n => exact ih l' h2 n

/-- the side Minus / Plus restrict to -/
def sideOf : IK → Side
  | .plus => .p
  | _ => .m

theorem denI_sideNormal (k : IK) (hk : k = .minus ∨ k = .plus)
    (s : Side) (i j : Nat) :
    denI S d lg s (sideNormal k) i j = denI S d lg (sideOf k) (normal "NormalVector:n") i j := by
  rw [(denI_normal S d lg (sideOf k) i j).1]
  rcases hk with rfl | rfl
  · exact (denI_normal S d lg s i j).2.1
  · exact (denI_normal S d lg s i j).2.2

def ifLeaf (k : IK) (e : E) : Except Err E :=
  match k with
  | .minus | .plus =>
      if isNormal e then .ok (sideNormal k)
      else if isZeroNum e then .ok zero
      else .ok (op1 k.op e)
  | _ => .ok (op1 k.op e)

theorem ifLeaf_sound (k : IK) (e r : E)
    (h : ifLeaf k e = .ok r) (s : Side) (i j : Nat) :
    denI S d lg s r i j = opI S d lg k (fun s' => denI S d lg s' e i j) s := by
  have node := denI_op S d lg k e s i j
  cases k with
  | minus | plus =>
    simp only [ifLeaf] at h
    split at h
    · rename_i hN
      injection h with h; subst h
      cases e with
      | normal t =>
        simp only [isNormal, beq_iff_eq] at hN
        subst hN
        exact denI_sideNormal S d lg _ (by decide) s i j
      | _ => exact Bool.noConfusion hN
    · split at h
      · rename_i hZ
        injection h with h; subst h
        rw [denI_zero]
        cases e with
        | num p q => exact (denG_isZeroNum S d lg (num p q) hZ i j).symm
        | _ => exact Bool.noConfusion hZ
      · injection h with h; subst h
        exact node
  | _ =>
    injection h with h; subst h
    exact node

/-! ### the `Mul` branch -/

/-- Jump, Average, Dn never look below a `Dn` node; Minus and Plus rewrite it -/
def strict : IK → Bool
  | .minus => false
  | .plus => false
  | _ => true

theorem opI_one (k : IK) (s : Side) :
    opI S d lg k (fun _ => (1 : K)) s = if k == .jump || k == .dn then 0 else 1 := by
  have h := halfK_two (K := K)
  cases k <;> simp only [opI]
  · simp
  · simp; linear_combination h
  · simp
  · simp
  · simp [Di, S.D_one, sumN_zero]

/-- the `Mul` branch: coefficients out; on the product of the other factors the product rule of
    the operator from the results on the factors, or the unevaluated node -/
theorem ifMul_sound (k : IK) (as : List E)
    (ih : ∀ f ∈ as, ∀ kk, (strict kk = true ∨ kk = k) → ∀ r, ifaceEval d kk f = .ok r → ∀ s i j,
      denI S d lg s r i j = opI S d lg kk (fun s' => denI S d lg s' f i j) s)
    (r : E) (h : ifaceEval d k (mul as) = .ok r) (s : Side) (i j : Nat) :
    denI S d lg s r i j = opI S d lg k (fun s' => denI S d lg s' (mul as) i j) s := by
  simp only [ifaceEval, ifaceEvalListE_eq, pick_eq] at h
  injection h with h; subst h
  -- the coefficients: one constant, the same on both sides
  have hcs : ∀ s', ((as.filter isCoef).map (fun a => denI S d lg s' a i j)).prod
      = ((as.filter isCoef).map (fun a => denI S d lg .m a 0 0)).prod := by
    intro s'
    congr 1
    apply List.map_congr_left
    intro a ha
    exact (denI_coef S d lg a (List.mem_filter.mp ha).2 s' i j).1
  have hD : ∀ m, Di S lg m ((as.filter isCoef).map (fun a => denI S d lg .m a 0 0)).prod = 0 := by
    intro m
    refine D_list_prod_zero _ (Di_one S lg m) (Di_mul S lg m) _ ?_
    intro x hx
    obtain ⟨a, ha, rfl⟩ := List.mem_map.mp hx
    exact (denI_coef S d lg a (List.mem_filter.mp ha).2 .m 0 0).2 m
  have hfun : (fun s' => denI S d lg s' (mul as) i j)
      = fun s' => ((as.filter isCoef).map (fun a => denI S d lg .m a 0 0)).prod
          * ((as.filter (fun x => !isCoef x)).map (fun f => denI S d lg s' f i j)).prod := by
    funext s'
    rw [denI_mul, prod_map_filter isCoef, hcs s']
  rw [denI_mul2, denI_mulOf, hfun, opI_smul S d lg k _ hD, hcs s]
  congr 1
  have ih' : ∀ f ∈ as.filter (fun x => !isCoef x), ∀ kk, (strict kk = true ∨ kk = k) → ∀ r,
      ifaceEval d kk f = .ok r → ∀ s i j,
      denI S d lg s r i j = opI S d lg kk (fun s' => denI S d lg s' f i j) s :=
    fun f hf => ih f (List.mem_filter.mp hf).1
  generalize as.filter (fun x => !isCoef x) = vs at ih' ⊢
  have hfb : denI S d lg s (op1 k.op (Calc.mulOf vs)) i j
      = opI S d lg k (fun s' => (vs.map (fun f => denI S d lg s' f i j)).prod) s := by
    rw [denI_op]
    congr 1
    funext s'
    exact denI_mulOf S d lg s' vs i j
  have hall : ∀ kk rs, (strict kk = true ∨ kk = k) →
      allSome (vs.map (fun f => (f, okOrNone (ifaceEval d kk f)))) = some rs →
      rs = vs.map (fun f => (f, okVal (ifaceEval d kk f)))
      ∧ ∀ f ∈ vs, denI S d lg s (okVal (ifaceEval d kk f)) i j
          = opI S d lg kk (fun s' => denI S d lg s' f i j) s := by
    intro kk rs hkk hrs
    obtain ⟨h1, h2⟩ := allSome_spec (ifaceEval d kk) vs rs hrs
    exact ⟨h1, fun f hf => ih' f hf kk hkk _ (h2 f hf) s i j⟩
  have hone : ∀ g r1, allSome (vs.map (fun f => (f, okOrNone (ifaceEval d k f)))) = some [(g, r1)] →
      denI S d lg s r1 i j
        = opI S d lg k (fun s' => (vs.map (fun f => denI S d lg s' f i j)).prod) s := by
    intro g r1 hrs
    obtain ⟨h1, h2⟩ := hall k _ (Or.inr rfl) hrs
    have hv : [g] = vs := by
      have := congrArg (List.map (·.1)) h1
      rwa [map_fst_pair] at this
    subst hv
    injection h1 with h1 _
    injection h1 with _ h1
    rw [h1, h2 g (by simp)]
    simp
  split
  · rename_i he
    have : vs = [] := by simpa using he
    subst this
    simp only [List.map, List.prod_nil]
    rw [opI_one]
    split
    · exact denI_zero S d lg s i j
    · exact denI_one S d lg s i j
  · have hja : ∀ js av, (k = .jump ∨ k = .avg) →
        allSome (vs.map (fun f => (f, okOrNone (ifaceEval d .jump f)))) = some js →
        allSome (vs.map (fun f => (f, okOrNone (ifaceEval d .avg f)))) = some av →
        denI S d lg s (if k == .jump then (jaProd ((js.zip av).map (fun p => (p.1.1, p.1.2, p.2.2)))).1
            else (jaProd ((js.zip av).map (fun p => (p.1.1, p.1.2, p.2.2)))).2) i j
          = opI S d lg k (fun s' => (vs.map (fun f => denI S d lg s' f i j)).prod) s := by
      intro js av hk hjs hav
      obtain ⟨j1, j2⟩ := hall .jump js (Or.inl rfl) hjs
      obtain ⟨a1, a2⟩ := hall .avg av (Or.inl rfl) hav
      have := jaProd_sound S d lg s i j vs (fun f => okVal (ifaceEval d .jump f))
        (fun f => okVal (ifaceEval d .avg f)) (fun f s' => denI S d lg s' f i j)
        (fun f hf => ⟨j2 f hf, a2 f hf⟩)
      rw [j1, a1, List.zip_map', List.map_map]
      rcases hk with rfl | rfl
      · exact this.1
      · exact this.2
    generalize hsd : sideOf k = sd
    cases k with
    | jump | avg =>
      simp only
      split
      · rename_i js av hjs hav
        split
        · split
          · exact hone _ _ (by assumption)
          · exact hfb
        · exact hja js av (by decide) hjs hav
      · split
        · exact hone _ _ (by assumption)
        · exact hfb
    | dn =>
      simp only
      split
      · rename_i rs hrs
        obtain ⟨h1, h2⟩ := hall .dn rs (Or.inl rfl) hrs
        rw [h1, dnProd_sound S d lg s i j (dnK_deriv S d lg s) vs _ h2]
        rfl
      · exact hfb
    | minus | plus =>
      simp only
      split
      · rename_i rs hrs
        obtain ⟨h1, h2⟩ := hall _ rs (Or.inr rfl) hrs
        rw [h1, sideProd_sound S d lg s i j vs _ (fun f => denI S d lg sd f i j) (by subst hsd; exact h2)]
        subst hsd
        rfl
      · exact hfb

/-! ### minus / plus of a normal derivative -/

/-- arguments of `Dn` for which `minus(Dn u)`, `plus(Dn u)` are covered: scalar leaves -/
def DnLeaf : E → Bool
  | sf _ _ => true
  | sym _ => true
  | cst _ => true
  | _ => false

theorem dnSide_sem (k : IK) (hk : k = .minus ∨ k = .plus)
    (u : E) (hu : DnLeaf u = true) (s : Side) (i j : Nat) :
    denI S d lg s (mul [E.one, E.one, op2 .dot (op1 .grad (op1 k.op u)) (sideNormal k)]) i j
      = opI S d lg k (fun s' => denI S d lg s' (op1 .dn u) i j) s := by
  have hel : elim d lg s (op2 .dot (op1 .grad (op1 k.op u)) (sideNormal k))
      = op2 .dot (op1 .grad (elim d lg (sideOf k) u)) (nVec d (sideOf k)) := by
    rcases hk with rfl | rfl <;> simp [elim, IK.op, sideNormal, sideOf]
  have hsc : Scal d (elim d lg (sideOf k) u) = true := by
    cases u with
    | sf n kk => rfl
    | sym n => rfl
    | cst n => rfl
    | _ => exact Bool.noConfusion hu
  have hr := Scal_rank d _ hsc
  have hval : denI S d lg s (op2 .dot (op1 .grad (op1 k.op u)) (sideNormal k)) i j
      = sumN d (fun c => nVal S (sideOf k) c * Di S lg c (denI S d lg (sideOf k) u i j)) := by
    simp only [denI, hel]
    rw [dot_vec S d lg (op1 .grad (elim d lg (sideOf k) u)) (nVec d (sideOf k))
      (by simp [isMat, rank, hr]) (by simp [isMat, nVec, rank]) i j]
    apply sumN_congr
    intro c hc
    rw [denG_nVec, if_pos hc, Scal_free S d lg _ hsc i j, denG_grad_scal S d lg _ hsc]
    ring
  rw [denI_mul]
  simp only [List.map, List.prod_cons, List.prod_nil, denI_one, one_mul, mul_one]
  rw [hval]
  rcases hk with rfl | rfl
  · exact (denI_dn S d lg .m u i j).symm
  · exact (denI_dn S d lg .p u i j).symm

theorem mkBilin_grad_normal (d : Nat) (x : E) (nm : String) :
    mkBilin d .dot (op1 .grad x) (normal nm)
      = .ok (mul [E.one, E.one, op2 .dot (op1 .grad x) (normal nm)]) := rfl

theorem leafBranch_node (o : Op1) (e r : E) (hn : Calc.isNumber e = false)
    (h : leafBranch o e = .ok r) : r = op1 o e := by
  unfold leafBranch at h
  rw [hn] at h
  split at h
  · injection h with h; exact h.symm
  · exact atomNode_ok o e r h

theorem dnSide_shape (k : IK) (hk : k = .minus ∨ k = .plus) (u : E)
    (hu : DnLeaf u = true) (r : E)
    (h : (do
        let su ← ifaceEval d k u
        let gu ← gradEval d su
        mkBilin d .dot gu (sideNormal k)) = .ok r) :
    r = mul [E.one, E.one, op2 .dot (op1 .grad (op1 k.op u)) (sideNormal k)] := by
  obtain ⟨su, hsu, h⟩ := bind_ok h
  obtain ⟨gu, hgu, h⟩ := bind_ok h
  have hsu' : su = op1 k.op u := by
    rcases hk with rfl | rfl <;> cases u with
    | sf n kk => injection hsu with hsu; exact hsu.symm
    | sym n => injection hsu with hsu; exact hsu.symm
    | cst n => injection hsu with hsu; exact hsu.symm
    | _ => exact Bool.noConfusion hu
  subst hsu'
  have hgu' : gu = op1 .grad (op1 k.op u) :=
    leafBranch_node .grad _ gu rfl (by simpa only [gradEval, leafBranch] using hgu)
  subst hgu'
  obtain ⟨nm, hn⟩ : ∃ nm, sideNormal k = normal nm := by
    rcases hk with rfl | rfl <;> exact ⟨_, rfl⟩
  rw [hn] at h ⊢
  rw [mkBilin_grad_normal] at h
  injection h with h; exact h.symm

mutual
/-- side condition of the Minus / Plus theorems: every `Dn` met along the recursion (terms of
    sums, factors of products, entries of matrices) is applied to a scalar leaf -/
def DnOK : E → Bool
  | add as => DnOKList as
  | mul as => DnOKList as
  | op1 .dn u => DnLeaf u
  | mat _ _ es => DnOKList es
  | _ => true
def DnOKList : List E → Bool
  | [] => true
  | a :: as => DnOK a && DnOKList as
end

theorem DnOKList_iff (as : List E) : DnOKList as = true ↔ ∀ a ∈ as, DnOK a = true := by
  induction as with
  | nil => simp [DnOKList]
  | cons a as ih => simp [DnOKList, ih]

theorem ifaceEval_opI (e : E) :
    ∀ k, (strict k = true ∨ DnOK e = true) → ∀ r, ifaceEval d k e = .ok r → ∀ s i j,
      denI S d lg s r i j = opI S d lg k (fun s' => denI S d lg s' e i j) s := by
  -- the side condition passes to the members of the argument list of a sum, product or matrix
  have hmem : ∀ (k : IK) (e : E) (as : List E), (DnOK e = true → DnOKList as = true) →
      (strict k = true ∨ DnOK e = true) → ∀ a ∈ as, strict k = true ∨ DnOK a = true :=
    fun k e as he hk a ha => hk.imp_right (fun h => (DnOKList_iff as).mp (he h) a ha)
  induction e using E.induction with
  | add as ih =>
    intro k hk r h s i j
    have hk' := hmem k _ as (fun h => by simpa only [DnOK] using h) hk
    simp only [ifaceEval, ifaceEvalList_eq] at h
    obtain ⟨rs, hrs, h⟩ := bind_ok h
    injection h with h; subst h
    rw [denI_add, mapM_map_eq (ifaceEval d k) (fun r => denI S d lg s r i j)
      (fun a => opI S d lg k (fun s' => denI S d lg s' a i j) s) as
      (fun a ha r hr => ih a ha k (hk' a ha) r hr s i j) rs hrs]
    have : (fun s' => denI S d lg s' (add as) i j)
        = fun s' => (as.map (fun a => denI S d lg s' a i j)).sum := by
      funext s'; exact denI_add S d lg s' as i j
    rw [this, opI_sum]
  | mul as ih =>
    intro k hk r h s i j
    have hk' := hmem k _ as (fun h => by simpa only [DnOK] using h) hk
    refine ifMul_sound S d lg k as (fun f hf kk hkk => ih f hf kk ?_) r h s i j
    rcases hkk with hkk | rfl
    · exact Or.inl hkk
    · exact hk' f hf
  | mat rr c es ih =>
    intro k hk r h s i j
    have hk' := hmem k _ es (fun h => by simpa only [DnOK] using h) hk
    cases k with
    | minus | plus =>
      simp only [ifaceEval, ifaceEvalList_eq] at h
      obtain ⟨rs, hrs, h⟩ := bind_ok h
      injection h with h; subst h
      simp only [opI, denI, elim, denG]
      congr 1
      apply denGNth_congr
      rw [elimList_eq, elimList_eq, List.map_map, List.map_map]
      exact mapM_map_eq (ifaceEval d _) _ _ es (fun a ha r hr => by
        have := ih a ha _ (hk' a ha) r hr s 0 0
        simp only [opI] at this
        exact this) rs hrs
    | _ =>
      simp only [ifaceEval] at h
      injection h with h; subst h
      exact denI_op S d lg _ _ s i j
  | op1 o u _ =>
    intro k hk r h s i j
    cases o with
    | dn =>
      cases k with
      | minus | plus =>
        have hu : DnLeaf u = true := hk.elim (fun h => Bool.noConfusion h) (fun h => by simpa [DnOK] using h)
        simp only [ifaceEval] at h
        rw [dnSide_shape d _ (by decide) u hu r h]
        exact dnSide_sem S d lg _ (by decide) u hu s i j
      | _ =>
        simp only [ifaceEval] at h
        injection h with h; subst h
        exact denI_op S d lg _ _ s i j
    | _ =>
      simp only [ifaceEval] at h
      exact ifLeaf_sound S d lg k _ r h s i j
  | _ =>
    intro k hk r h s i j
    simp only [ifaceEval] at h
    exact ifLeaf_sound S d lg k _ r h s i j

end Sympde

/-
  numpy broadcasting (Model/Broadcast.lean) on reversed shapes, trailing axis first: `bcR` is a commutative,
  associative, idempotent partial operation and gives the least shape, in the order `fitsR`, that both operands
  fit into.  `broadcast2` and `fits` are the same on shapes in numpy order.
-/
import Mathlib.Tactic.SplitIfs
import Mathlib.Data.List.Basic
import SympdeModel.Model.Broadcast
namespace Sympde.Bcast

theorem dim2_one_left (y : Nat) : dim2 1 y = some y := by
  unfold dim2; split_ifs with h <;> simp_all

theorem dim2_one_right (x : Nat) : dim2 x 1 = some x := by
  unfold dim2; split_ifs with h <;> simp_all

theorem dim2_self (x : Nat) : dim2 x x = some x := by simp [dim2]

theorem dim2_ne {x y : Nat} (h : x ≠ y) (hx : x ≠ 1) (hy : y ≠ 1) : dim2 x y = none := by
  simp [dim2, h, hx, hy]

theorem dim2_comm (x y : Nat) : dim2 x y = dim2 y x := by
  rcases eq_or_ne x 1 with rfl | hx
  · rw [dim2_one_left, dim2_one_right]
  rcases eq_or_ne y 1 with rfl | hy
  · rw [dim2_one_left, dim2_one_right]
  rcases eq_or_ne x y with rfl | hxy
  · rfl
  · rw [dim2_ne hxy hx hy, dim2_ne hxy.symm hy hx]

theorem bcR_nil_right (a : Shape) : bcR a [] = some a := by cases a <;> simp [bcR]

theorem bcR_comm (a b : Shape) : bcR a b = bcR b a := by
  induction a generalizing b with
  | nil => simp [bcR, bcR_nil_right]
  | cons x a ih =>
    cases b with
    | nil => simp [bcR]
    | cons y b => simp only [bcR, ih b, dim2_comm x y]

theorem bcR_self (a : Shape) : bcR a a = some a := by
  induction a with
  | nil => rfl
  | cons x a ih => simp [bcR, ih, dim2_self]

def cons2 (d : Option Nat) (r : Option Shape) : Option Shape := d.bind fun d => r.map fun r => d :: r

theorem bcR_cons (x y : Nat) (a b : Shape) : bcR (x :: a) (y :: b) = cons2 (dim2 x y) (bcR a b) := by
  simp only [bcR, cons2]
  cases dim2 x y <;> cases bcR a b <;> rfl

theorem cons2_bind_left (d : Option Nat) (r : Option Shape) (z : Nat) (c : Shape) :
    (cons2 d r).bind (fun s => bcR s (z :: c)) = cons2 (d.bind fun d => dim2 d z) (r.bind fun r => bcR r c) := by
  cases d <;> cases r <;> simp [cons2, bcR_cons]

theorem cons2_bind_right (d : Option Nat) (r : Option Shape) (x : Nat) (a : Shape) :
    (cons2 d r).bind (fun s => bcR (x :: a) s) = cons2 (d.bind fun d => dim2 x d) (r.bind fun r => bcR a r) := by
  cases d <;> cases r <;> simp [cons2, bcR_cons]

theorem dim2_assoc (x y z : Nat) :
    (dim2 x y).bind (fun d => dim2 d z) = (dim2 y z).bind (fun d => dim2 x d) := by
  rcases eq_or_ne x 1 with rfl | hx
  · simp only [dim2_one_left, Option.bind_some]
    cases dim2 y z with
    | none => rfl
    | some d => rfl
  rcases eq_or_ne z 1 with rfl | hz
  · simp only [dim2_one_right, Option.bind_some]
    cases dim2 x y with
    | none => rfl
    | some d => rfl
  rcases eq_or_ne y 1 with rfl | hy
  · simp only [dim2_one_left, dim2_one_right, Option.bind_some]
  rcases eq_or_ne x y with rfl | hxy
  · simp only [dim2_self, Option.bind_some]
    rcases eq_or_ne x z with rfl | hxz
    · simp only [dim2_self, Option.bind_some]
    · simp only [dim2_ne hxz hx hz, Option.bind_none]
  · simp only [dim2_ne hxy hx hy, Option.bind_none]
    rcases eq_or_ne y z with rfl | hyz
    · simp only [dim2_self, Option.bind_some, dim2_ne hxy hx hy]
    · simp only [dim2_ne hyz hy hz, Option.bind_none]

theorem bcR_assoc (a b c : Shape) :
    (bcR a b).bind (fun d => bcR d c) = (bcR b c).bind (fun d => bcR a d) := by
  induction a generalizing b c with
  | nil => cases h : bcR b c <;> simp [bcR, h]
  | cons x a ih =>
    cases b with
    | nil => simp [bcR]
    | cons y b =>
      cases c with
      | nil => simp [bcR_nil_right]
      | cons z c => rw [bcR_cons, bcR_cons, cons2_bind_left, cons2_bind_right, dim2_assoc, ih]

theorem fitsR_refl (a : Shape) : fitsR a a = true := by
  induction a with
  | nil => rfl
  | cons x a ih => simp [fitsR, ih]

theorem fitsR_nil (a : Shape) : fitsR [] a = true := by cases a <;> rfl

theorem fitsR_trans (a b c : Shape) (h1 : fitsR a b = true) (h2 : fitsR b c = true) : fitsR a c = true := by
  induction a generalizing b c with
  | nil => exact fitsR_nil c
  | cons x a ih =>
    cases b with
    | nil => simp [fitsR] at h1
    | cons y b =>
      cases c with
      | nil => simp [fitsR] at h2
      | cons z c =>
        simp only [fitsR, Bool.and_eq_true, Bool.or_eq_true, beq_iff_eq] at h1 h2 ⊢
        refine ⟨?_, ih b c h1.2 h2.2⟩
        rcases h1.1 with rfl | rfl
        · exact h2.1
        · exact Or.inr rfl

theorem dim2_fits {x y d : Nat} (h : dim2 x y = some d) : (x = d ∨ x = 1) ∧ (y = d ∨ y = 1) := by
  unfold dim2 at h
  split_ifs at h <;> simp_all

theorem bcR_fits (a b c : Shape) (h : bcR a b = some c) : fitsR a c = true ∧ fitsR b c = true := by
  induction a generalizing b c with
  | nil => simp [bcR] at h; subst h; exact ⟨fitsR_nil _, fitsR_refl _⟩
  | cons x a ih =>
    cases b with
    | nil => simp [bcR] at h; subst h; exact ⟨fitsR_refl _, fitsR_nil _⟩
    | cons y b =>
      rw [bcR_cons] at h
      cases hd : dim2 x y with
      | none => simp [cons2, hd] at h
      | some d =>
        cases hr : bcR a b with
        | none => simp [cons2, hd, hr] at h
        | some r =>
          simp [cons2, hd, hr] at h; subst h
          obtain ⟨f1, f2⟩ := ih b r hr
          obtain ⟨g1, g2⟩ := dim2_fits hd
          simp only [fitsR, Bool.and_eq_true, Bool.or_eq_true, beq_iff_eq]
          exact ⟨⟨g1, f1⟩, ⟨g2, f2⟩⟩

theorem dim2_lub (x y z : Nat) (hx : x = z ∨ x = 1) (hy : y = z ∨ y = 1) :
    ∃ d, dim2 x y = some d ∧ (d = z ∨ d = 1) := by
  rcases hx with rfl | rfl
  · rcases hy with rfl | rfl
    · exact ⟨y, dim2_self y, Or.inl rfl⟩
    · exact ⟨x, dim2_one_right x, Or.inl rfl⟩
  · exact ⟨y, dim2_one_left y, hy⟩

theorem bcR_lub (a b c : Shape) (ha : fitsR a c = true) (hb : fitsR b c = true) :
    ∃ d, bcR a b = some d ∧ fitsR d c = true := by
  induction a generalizing b c with
  | nil => exact ⟨b, by simp [bcR], hb⟩
  | cons x a ih =>
    cases b with
    | nil => exact ⟨x :: a, by simp [bcR], ha⟩
    | cons y b =>
      cases c with
      | nil => simp [fitsR] at ha
      | cons z c =>
        simp only [fitsR, Bool.and_eq_true, Bool.or_eq_true, beq_iff_eq] at ha hb
        obtain ⟨r, hr, hf⟩ := ih b c ha.2 hb.2
        have := dim2_lub x y z ha.1 hb.1
        obtain ⟨d, hd, hdz⟩ := this
        refine ⟨d :: r, by rw [bcR_cons, hd, hr]; rfl, ?_⟩
        simp only [fitsR, Bool.and_eq_true, Bool.or_eq_true, beq_iff_eq]
        exact ⟨hdz, hf⟩

theorem fitsR_nil_right (a : Shape) (h : fitsR a [] = true) : a = [] := by
  cases a with
  | nil => rfl
  | cons x a => simp [fitsR] at h

theorem fitsR_length (a b : Shape) (h : fitsR a b = true) : a.length ≤ b.length := by
  induction a generalizing b with
  | nil => simp
  | cons x a ih =>
    cases b with
    | nil => simp [fitsR] at h
    | cons y b =>
      simp only [fitsR, Bool.and_eq_true] at h
      have := ih b h.2
      simp; omega

theorem broadcast2_eq (a b c : Shape) : broadcast2 a b = some c ↔ bcR a.reverse b.reverse = some c.reverse := by
  unfold broadcast2
  cases h : bcR a.reverse b.reverse with
  | none => simp
  | some r =>
    simp only [Option.map_some, Option.some.injEq]
    constructor
    · rintro rfl; simp
    · intro e; rw [e]; simp

theorem fits_refl (a : Shape) : fits a a = true := fitsR_refl _
theorem fits_trans (a b c : Shape) (h1 : fits a b = true) (h2 : fits b c = true) : fits a c = true :=
  fitsR_trans _ _ _ h1 h2

theorem broadcast2_fits (a b c : Shape) (h : broadcast2 a b = some c) : fits a c = true ∧ fits b c = true :=
  bcR_fits _ _ _ ((broadcast2_eq a b c).mp h)

theorem broadcast2_lub (a b c : Shape) (ha : fits a c = true) (hb : fits b c = true) :
    ∃ d, broadcast2 a b = some d ∧ fits d c = true := by
  obtain ⟨d, hd, hf⟩ := bcR_lub _ _ _ ha hb
  refine ⟨d.reverse, (broadcast2_eq a b d.reverse).mpr (by simpa using hd), ?_⟩
  unfold fits; simpa using hf

theorem broadcastAll_fits (inputs : List Shape) (b : Shape) (h : broadcastAll inputs = some b) :
    ∀ s ∈ inputs, fits s b = true := by
  induction inputs generalizing b with
  | nil => intro s hs; cases hs
  | cons s0 ss ih =>
    simp only [broadcastAll] at h
    cases hr : broadcastAll ss with
    | none => simp [hr] at h
    | some r =>
      simp [hr] at h
      obtain ⟨f1, f2⟩ := broadcast2_fits _ _ _ h
      intro s hs
      rcases List.mem_cons.mp hs with rfl | hs
      · exact f1
      · exact fits_trans _ _ _ (ih r hr s hs) f2

theorem broadcastAll_lub (ss : List Shape) (b : Shape) (h : ∀ s ∈ ss, fits s b = true) :
    ∃ t, broadcastAll ss = some t ∧ fits t b = true := by
  induction ss with
  | nil => exact ⟨[], rfl, by simp [fits, fitsR_nil]⟩
  | cons s ss ih =>
    obtain ⟨r, hr, hf⟩ := ih (fun x hx => h x (List.mem_cons_of_mem _ hx))
    obtain ⟨d, hd, hdf⟩ := broadcast2_lub s r b (h s (by simp)) hf
    exact ⟨d, by simp [broadcastAll, hr, hd], hdf⟩

theorem pick_mem (inputs : List Shape) (used : List Nat) : ∀ s ∈ pick inputs used, s ∈ inputs := by
  intro s hs
  simp only [pick, List.mem_filterMap] at hs
  obtain ⟨k, _, hk⟩ := hs
  exact List.mem_of_getElem? hk

/-- what the variables a component depends on produce fits into the broadcast of all arguments -/
theorem used_fits (inputs : List Shape) (b : Shape) (h : broadcastAll inputs = some b) (used : List Nat) :
    ∃ t, broadcastAll (pick inputs used) = some t ∧ fits t b = true :=
  broadcastAll_lub _ b (fun s hs => broadcastAll_fits inputs b h s (pick_mem inputs used s hs))

end Sympde.Bcast

/-
  Facts about the exterior-calculus model that the operator laws rest on: sympy's `Add` / `Mul` as
  modelled by `sAdd` / `sMul` treat literal zeros as expected (a product is zero exactly when a factor is, a sum of
  zeros is zero) and keep canonical linear
  combinations (`isLin`) canonical, and degree inference on a product sees only its non-coefficient
  factors.
-/
import SympdeModel.Model.Exterior
namespace Sympde.Ext
open XE

/-- Induction over expression trees with sums and products singled out: every other node is an
    atom as far as `uEval`, `isLin` and `isZero` are concerned. -/
theorem XE.sum_prod_induction {P : XE → Prop}
    (add : ∀ as, (∀ a ∈ as, P a) → P (XE.add as))
    (mul : ∀ as, (∀ a ∈ as, P a) → P (XE.mul as))
    (atom : ∀ e, (∀ as, e ≠ XE.add as) → (∀ as, e ≠ XE.mul as) → P e) (e : XE) : P e := by
  induction e using XE.rec (motive_2 := fun as => ∀ a ∈ as, P a) with
  | add as ih => exact add as ih
  | mul as ih => exact mul as ih
  | nil => exact nomatch ‹_ ∈ []›
  | cons a as iha ihas =>
    rename_i x hx
    rcases List.mem_cons.mp hx with rfl | hx
    · exact iha
    · exact ihas x hx
  | _ => exact atom _ (by intro as h; cases h) (by intro as h; cases h)

/-! ### the list companions of the mutual definitions -/

theorem anyZero_iff (xs : List XE) : anyZero xs = xs.any isZero := by
  induction xs with
  | nil => rfl
  | cons a as ih => simp [anyZero, ih]

theorem allZero_iff (xs : List XE) : allZero xs = xs.all isZero := by
  induction xs with
  | nil => rfl
  | cons a as ih => simp [allZero, ih]

theorem allLin_iff (b : XE → Bool) (xs : List XE) : allLin b xs = xs.all (isLin b) := by
  induction xs with
  | nil => rfl
  | cons a as ih => simp [allLin, ih]

theorem allCoefOrLin_iff (b : XE → Bool) (xs : List XE) :
    allCoefOrLin b xs = xs.all (fun a => isCoef a || isLin b a) := by
  induction xs with
  | nil => rfl
  | cons a as ih => simp [allCoefOrLin, ih]

theorem WFList_iff (xs : List XE) : WFList xs = xs.all WF := by
  induction xs with
  | nil => rfl
  | cons a as ih => simp [WFList, ih]

theorem uEvalList_eq (o : U) (xs : List XE) : uEvalList o xs = xs.map (uEval o) := by
  induction xs with
  | nil => rfl
  | cons a as ih => simp [uEvalList, ih]

theorem countVecs_eq (xs : List XE) : countVecs xs = (vecs xs).length := by
  induction xs with
  | nil => rfl
  | cons a as ih =>
    rw [countVecs, ih]
    unfold vecs
    rw [List.filter_cons]
    cases isCoef a <;> simp [Nat.add_comm]

theorem isZero_add (as : List XE) : isZero (add as) = as.all isZero := by
  rw [isZero, allZero_iff]

theorem isZero_mul (as : List XE) : isZero (mul as) = as.any isZero := by
  rw [isZero, anyZero_iff]

theorem isLin_add (b : XE → Bool) (as : List XE) : isLin b (add as) = as.all (isLin b) := by
  rw [isLin, allLin_iff]

/-- the pre-computed results of the non-coefficient factors -/
theorem rvs_eq (o : U) (xs : List XE) :
    ((xs.zip (uEvalList o xs)).filter (fun p => !isCoef p.1)).map (·.2)
      = (vecs xs).map (uEval o) := by
  induction xs with
  | nil => rfl
  | cons a as ih =>
    simp only [uEvalList, List.zip_cons_cons, List.filter_cons, vecs] at *
    cases isCoef a <;> simp [ih]

/-! ### flattening: one level of nested sums / products is spliced in -/

theorem flatAddArgs_cons (x : XE) (xs : List XE) (h : ∀ ys, x ≠ add ys) :
    flatAddArgs (x :: xs) = x :: flatAddArgs xs := by
  cases x with
  | add ys => exact absurd rfl (h ys)
  | _ => rfl

theorem flatMulArgs_cons (x : XE) (xs : List XE) (h : ∀ ys, x ≠ mul ys) :
    flatMulArgs (x :: xs) = x :: flatMulArgs xs := by
  cases x with
  | mul ys => exact absurd rfl (h ys)
  | _ => rfl

theorem all_flatAddArgs (p : XE → Bool) (hp : ∀ ys, p (add ys) = ys.all p) (xs : List XE) :
    (flatAddArgs xs).all p = xs.all p := by
  induction xs with
  | nil => rfl
  | cons a as ih =>
    by_cases ha : ∃ ys, a = add ys
    · obtain ⟨ys, rfl⟩ := ha
      rw [flatAddArgs, List.all_append, ih, List.all_cons, hp]
    · rw [flatAddArgs_cons a as (fun ys h => ha ⟨ys, h⟩), List.all_cons, ih, List.all_cons]

theorem any_flatMulArgs (p : XE → Bool) (hp : ∀ ys, p (mul ys) = ys.any p) (xs : List XE) :
    (flatMulArgs xs).any p = xs.any p := by
  induction xs with
  | nil => rfl
  | cons a as ih =>
    by_cases ha : ∃ ys, a = mul ys
    · obtain ⟨ys, rfl⟩ := ha
      rw [flatMulArgs, List.any_append, ih, List.any_cons, hp]
    · rw [flatMulArgs_cons a as (fun ys h => ha ⟨ys, h⟩), List.any_cons, ih, List.any_cons]

theorem isCoef_ne_mul (c : XE) (hc : isCoef c = true) (ys : List XE) : c ≠ mul ys := by
  rintro rfl
  cases hc

theorem flatMulArgs_coefs (cs xs : List XE) (h : ∀ c ∈ cs, isCoef c = true) :
    flatMulArgs (cs ++ xs) = cs ++ flatMulArgs xs := by
  induction cs with
  | nil => rfl
  | cons c cs ih =>
    rw [List.cons_append, flatMulArgs_cons c _ (isCoef_ne_mul c (h c (by simp))),
      ih (fun x hx => h x (by simp [hx])), List.cons_append]

/-! ### sympy's `Mul` and `Add` on zeros -/

theorem isZero_zero : isZero zero = true := rfl

theorem isOne_not_isZero (y : XE) (h : isOne y = true) : isZero y = false := by
  cases y with
  | num p q =>
    simp only [isOne, Bool.and_eq_true, beq_iff_eq] at h
    simp [isZero, h.1]
  | _ => cases h

theorem sMul_args_anyZero (xs : List XE) :
    ((flatMulArgs xs).filter (fun y => !isOne y)).any isZero = xs.any isZero := by
  have : (fun y => !isOne y && isZero y) = isZero := by
    funext y
    cases h : isOne y
    · rfl
    · simp [isOne_not_isZero y h]
  rw [← any_flatMulArgs isZero isZero_mul xs, List.any_filter, this]

theorem isZero_finishMul_eq (ys : List XE) : isZero (finishMul ys) = ys.any isZero := by
  match ys with
  | [] => rfl
  | [y] => simp [finishMul]
  | y1 :: y2 :: ys => exact isZero_mul _

theorem isZero_finishMul (ys : List XE) (h : ys.any isZero = true) : isZero (finishMul ys) = true := by
  rw [isZero_finishMul_eq, h]

theorem isZero_sMul (xs : List XE) : isZero (sMul xs) = xs.any isZero := by
  rw [← sMul_args_anyZero xs]
  unfold sMul
  simp only
  split
  · rename_i h
    rw [h, isZero_zero]
  · exact isZero_finishMul_eq _

theorem isZero_sAdd (xs : List XE) (h : ∀ x ∈ xs, isZero x = true) : isZero (sAdd xs) = true := by
  have hall := all_flatAddArgs isZero isZero_add xs
  rw [List.all_eq_true.mpr h, List.all_eq_true] at hall
  have : (flatAddArgs xs).filter (fun y => !isZero y) = [] := by
    rw [List.filter_eq_nil_iff]
    intro y hy
    simp [hall y hy]
  rw [sAdd, this]
  rfl

/-! ### canonical linear combinations -/

theorem isLin_zero (b : XE → Bool) : isLin b zero = true := by simp [zero, isLin]

theorem isLin_base (b : XE → Bool) (e : XE) (h : b e = true) (hna : ∀ as, e ≠ add as)
    (hnm : ∀ as, e ≠ mul as) : isLin b e = true := by
  cases e with
  | add as => exact absurd rfl (hna as)
  | mul as => exact absurd rfl (hnm as)
  | num p q => simp [isLin, h]
  | _ => exact h

theorem isLin_atom (b : XE → Bool) (e : XE) (hna : ∀ as, e ≠ add as) (hnm : ∀ as, e ≠ mul as)
    (h : isLin b e = true) : (∃ q, e = num 0 q) ∨ b e = true := by
  cases e with
  | add as => exact absurd rfl (hna as)
  | mul as => exact absurd rfl (hnm as)
  | num p q =>
    simp only [isLin, Bool.or_eq_true, beq_iff_eq] at h
    exact h.imp (fun hp => ⟨q, by rw [hp]⟩) id
  | _ => exact .inr h

theorem isLin_finishAdd (b : XE → Bool) (ys : List XE) (h : ∀ y ∈ ys, isLin b y = true) :
    isLin b (finishAdd ys) = true := by
  match ys, h with
  | [], _ => exact isLin_zero b
  | [y], h => exact h y (by simp)
  | y1 :: y2 :: ys, h =>
    show isLin b (add _) = true
    rw [isLin_add, List.all_eq_true]
    exact h

theorem isLin_sAdd (b : XE → Bool) (xs : List XE) (h : ∀ x ∈ xs, isLin b x = true) :
    isLin b (sAdd xs) = true := by
  have hall := all_flatAddArgs (isLin b) (isLin_add b) xs
  rw [List.all_eq_true.mpr h, List.all_eq_true] at hall
  exact isLin_finishAdd b _ (fun y hy => hall y (List.mem_filter.mp hy).1)

theorem isOne_isCoef (y : XE) (h : isOne y = true) : isCoef y = true := by
  cases y with
  | num p q => rfl
  | _ => cases h

theorem vecs_filter_notOne (l : List XE) : vecs (l.filter (fun y => !isOne y)) = vecs l := by
  unfold vecs
  rw [List.filter_filter]
  apply List.filter_congr
  intro y _
  cases h : isOne y
  · simp
  · simp [isOne_isCoef y h]

theorem vecs_append_coefs (cs l : List XE) (h : ∀ c ∈ cs, isCoef c = true) :
    vecs (cs ++ l) = vecs l := by
  have : cs.filter (fun a => !isCoef a) = [] := by
    rw [List.filter_eq_nil_iff]; intro a ha; simp [h a ha]
  rw [vecs, List.filter_append, this, List.nil_append, vecs]

theorem isLin_mul_parts (b : XE → Bool) (rs : List XE) (h : isLin b (mul rs) = true) :
    (coefs rs).isEmpty = false ∧ countVecs rs = 1 ∧ ∀ y ∈ rs, (isCoef y || isLin b y) = true := by
  simp only [isLin, allCoefOrLin_iff, Bool.and_eq_true, List.all_eq_true] at h
  obtain ⟨⟨h1, h2⟩, h3⟩ := h
  exact ⟨by simpa using h1, by simpa using h2, h3⟩

theorem isLin_finishMul (b : XE → Bool) (ys : List XE) (hc : countVecs ys = 1)
    (ha : ∀ y ∈ ys, (isCoef y || isLin b y) = true) : isLin b (finishMul ys) = true := by
  match ys, hc, ha with
  | [y], hc, ha =>
    have := ha y (by simp)
    cases hy : isCoef y
    · simpa [finishMul, hy] using this
    · simp [countVecs, hy] at hc
  | y1 :: y2 :: ys, hc, ha =>
    simp only [finishMul, isLin, allCoefOrLin_iff, Bool.and_eq_true, List.all_eq_true]
    refine ⟨⟨?_, by simpa using hc⟩, ha⟩
    -- two non-coefficients in front would make `countVecs` at least 2
    cases h1 : isCoef y1
    · cases h2 : isCoef y2
      · simp [countVecs, h1, h2] at hc
      · simp [coefs, h1, h2]
    · simp [coefs, List.filter_cons, h1]

theorem isZero_of_isLin_isCoef (b : XE → Bool) (hb : ∀ e, b e = true → isCoef e = false)
    (r : XE) (hr : isLin b r = true) (hc : isCoef r = true) : isZero r = true := by
  have hbr : b r = false := by
    cases h : b r
    · rfl
    · rw [hb r h] at hc; cases hc
  cases r with
  | num p q => simpa [isLin, hbr, isZero] using hr
  | cst s => simp [isLin, hbr] at hr
  | other t as => simp [isLin, hbr] at hr
  | _ => cases hc

theorem lin_factors (b : XE → Bool) (hb : ∀ e, b e = true → isCoef e = false) (r : XE)
    (hr : isLin b r = true) (hz : isZero r = false) :
    countVecs (flatMulArgs [r]) = 1 ∧
      ∀ y ∈ flatMulArgs [r], (isCoef y || isLin b y) = true := by
  by_cases hm : ∃ rs, r = mul rs
  · obtain ⟨rs, rfl⟩ := hm
    have := isLin_mul_parts b rs hr
    rw [flatMulArgs, flatMulArgs, List.append_nil]
    exact this.2
  · have hnc : isCoef r = false := by
      cases h : isCoef r
      · rfl
      · rw [isZero_of_isLin_isCoef b hb r hr h] at hz; cases hz
    rw [flatMulArgs_cons r [] (fun ys h => hm ⟨ys, h⟩), flatMulArgs]
    constructor
    · simp [countVecs, hnc]
    · intro y hy
      rw [List.mem_singleton.mp hy, hr, Bool.or_true]

theorem isLin_sMul (b : XE → Bool) (hb : ∀ e, b e = true → isCoef e = false)
    (cs : List XE) (r : XE) (hcs : ∀ c ∈ cs, isCoef c = true)
    (hr : isLin b r = true) : isLin b (sMul (cs ++ [r])) = true := by
  unfold sMul
  simp only
  split
  · exact isLin_zero b
  · rename_i hnz
    rw [sMul_args_anyZero, List.any_append, Bool.or_eq_true, not_or] at hnz
    obtain ⟨h1, h2⟩ := lin_factors b hb r hr (by simpa using hnz.2)
    apply isLin_finishMul
    · rw [countVecs_eq, vecs_filter_notOne, flatMulArgs_coefs cs [r] hcs, vecs_append_coefs _ _ hcs,
        ← countVecs_eq, h1]
    · intro y hy
      have hy' := (List.mem_filter.mp hy).1
      rw [flatMulArgs_coefs cs [r] hcs, List.mem_append] at hy'
      rcases hy' with hy' | hy'
      · rw [hcs y hy', Bool.true_or]
      · exact h2 y hy'

theorem isNode_cases (o : U) (e : XE) (h : isNode o e = true) : ∃ a, e = o.node a := by
  unfold isNode at h
  split at h
  · exact ⟨_, rfl⟩
  · exact ⟨_, rfl⟩
  · exact ⟨_, rfl⟩
  · cases h

theorem isNode_not_coef (o : U) (e : XE) (h : isNode o e = true) : isCoef e = false := by
  obtain ⟨a, rfl⟩ := isNode_cases o e h
  cases o <;> rfl

theorem isFormP_cases (p : Nat → Nat → Bool) (e : XE) (h : isFormP p e = true) :
    ∃ s k n, e = form s k n ∧ p k n = true := by
  cases e with
  | form s k n => exact ⟨s, k, n, rfl, h⟩
  | _ => cases h

theorem isHodgeOfForm_cases (e : XE) (h : isHodgeOfForm e = true) :
    ∃ s k n, e = XE.hodge (form s k n) := by
  cases e with
  | hodge a =>
    cases a with
    | form s k n => exact ⟨s, k, n, rfl⟩
    | _ => cases h
  | _ => cases h

theorem isNode_node (o : U) (a : XE) : isNode o (o.node a) = true := by
  cases o <;> rfl

theorem isImg_node (o : U) (a : XE) : isImg o (o.node a) = true := by
  cases o <;> rfl

/-! ### coefficients (numbers, Constants, powers of those) -/

theorem isReg_isCoef (a : XE) (h : isReg a = true) : isCoef a = true := by
  cases a <;> first | rfl | cases h

theorem isCoef_cases (a : XE) (h : isCoef a = true) :
    (∃ p q, a = num p q) ∨ (∃ s, a = cst s) ∨
      (∃ b e, a = other "Pow" [b, e] ∧ isReg b = true ∧ isReg e = true) := by
  cases a with
  | num p q => exact .inl ⟨p, q, rfl⟩
  | cst s => exact .inr (.inl ⟨s, rfl⟩)
  | other t as =>
    simp only [isCoef, Bool.and_eq_true, beq_iff_eq] at h
    obtain ⟨rfl, h2⟩ := h
    match as, h2 with
    | [b, e], h2 =>
      simp only [isRegPair, Bool.and_eq_true] at h2
      exact .inr (.inr ⟨b, e, rfl, h2.1, h2.2⟩)
  | _ => cases h

/-- a coefficient has no inferred degree (`infere_type` returns `None` on it, it never raises) -/
theorem infer_coef (a : XE) (h : isCoef a = true) : infer a = .ok none := by
  cases a <;> first | rfl | cases h

theorem inferList_cons (a : XE) (as : List XE) :
    inferList (a :: as) = (infer a).bind fun t => (inferList as).map (t :: ·) := by
  rw [inferList]
  cases infer a with
  | error e => rfl
  | ok t => cases inferList as <;> rfl

/-- degree inference on a product looks at the non-coefficient factors only: it fails as it
    fails on them, and what it records at their places are their degrees -/
theorem inferList_vecs (as : List XE) :
    (inferList as).map (fun ts => ((as.zip ts).filter (fun p => !isCoef p.1)).map (·.2))
      = inferList (vecs as) := by
  induction as with
  | nil => rfl
  | cons a as ih =>
    unfold vecs at ih ⊢
    rw [List.filter_cons, inferList_cons]
    cases hc : isCoef a
    · rw [Bool.not_false, if_pos rfl, inferList_cons, ← ih]
      cases infer a with
      | error e => rfl
      | ok t => cases inferList as <;> simp [Except.bind, Except.map, hc]
    · rw [Bool.not_true, if_neg Bool.false_ne_true, infer_coef a hc, ← ih]
      cases inferList as <;> simp [Except.bind, Except.map, hc]

theorem sMul_coef_pair (c x : XE) (hc : isCoef c = true) (h0 : isZero c = false)
    (h1 : isOne c = false) (hxm : ∀ ys, x ≠ mul ys) (hx0 : isZero x = false)
    (hx1 : isOne x = false) : sMul [c, x] = mul [c, x] := by
  unfold sMul
  rw [flatMulArgs_cons c _ (isCoef_ne_mul c hc), flatMulArgs_cons x _ hxm]
  simp [flatMulArgs, h0, h1, hx0, hx1, finishMul]

end Sympde.Ext

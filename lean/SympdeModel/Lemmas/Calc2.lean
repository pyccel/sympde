/-
  What the `eval` methods of sympde/calculus/core.py share, and their soundness branch by branch
  (Props/C02.lean, Props/C02b.lean put the branches together): the abstract linear functional
  `LinFun` behind Grad / Curl / Rot / Hessian / Laplace / Div with the sum, constant-factor and
  leaf branches; the bilinear products; the Poisson bracket; the shape `GI` of computed
  gradients and curls that makes them admissible arguments of Dot.
-/
import SympdeModel.Lemmas.Calc
import SympdeModel.Lemmas.ExprEq
namespace Sympde
open E Calc
open DRing (sumN sumN_add sumN_mul_left sumN_congr sumN_zero)

variable {K : Type} [CommRing K] [Algebra ℚ K]
variable (S : DRing K) (d : Nat) (lg : Bool)

/-! ### lists and results of `Except` computations -/

theorem zip_map_filter {α β : Type} (p : α → Bool) (f : α → β) (as : List α) :
    (as.zip (as.map f)).filter (fun q => p q.1) = (as.filter p).map (fun a => (a, f a)) := by
  induction as with
  | nil => rfl
  | cons a as ih =>
    simp only [List.map, List.zip_cons_cons, List.filter]
    cases hp : p a <;> simp [ih]

theorem map_fst_pair {α β : Type} (f : α → β) (l : List α) : (l.map (fun a => (a, f a))).map (·.1) = l := by
  rw [List.map_map]; exact List.map_id' _

theorem eq_map_of_eqns {α β : Type} (f : α → β) (g : List α → List β) (h0 : g [] = [])
    (h1 : ∀ a as, g (a :: as) = f a :: g as) (as : List α) : g as = as.map f := by
  induction as with
  | nil => exact h0
  | cons a as ih => rw [h1, ih, List.map]

theorem forall_mem2 {α : Type} {P : α → Prop} {a b : α} (ha : P a) (hb : P b) : ∀ x ∈ [a, b], P x := by
  intro x hx
  simp only [List.mem_cons, List.not_mem_nil, or_false] at hx
  rcases hx with rfl | rfl <;> assumption

theorem forall_mem3 {α : Type} {P : α → Prop} {a b c : α} (ha : P a) (hb : P b) (hc : P c) :
    ∀ x ∈ [a, b, c], P x := by
  intro x hx
  simp only [List.mem_cons, List.not_mem_nil, or_false] at hx
  rcases hx with rfl | rfl | rfl <;> assumption

theorem mem_of_filter_eq {p : E → Bool} {as l : List E} (h : as.filter p = l) : ∀ x ∈ l, x ∈ as :=
  fun _ hx => (List.mem_filter.mp (h ▸ hx)).1

theorem seqE_map {α : Type} (f : α → Except Err E) (l : List α) : seqE (l.map f) = l.mapM f := by
  induction l with
  | nil => rw [List.mapM_nil]; rfl
  | cons a l ih => rw [List.map, seqE, ih, List.mapM_cons]; rfl

theorem mapM_map_eq {α β γ : Type} (f : α → Except Err β) (V : β → γ) (X : α → γ) (l : List α)
    (hf : ∀ t ∈ l, ∀ r, f t = .ok r → V r = X t) (rs : List β) (h : l.mapM f = .ok rs) :
    rs.map V = l.map X := by
  induction l generalizing rs with
  | nil => rw [List.mapM_nil] at h; cases h; rfl
  | cons t ts ih =>
    rw [List.mapM_cons] at h
    obtain ⟨r, hr, h⟩ := bind_ok h
    obtain ⟨rs', hrs, h⟩ := bind_ok h
    cases h
    rw [List.map, List.map, hf t (by simp) r hr, ih (fun x hx => hf x (by simp [hx])) rs' hrs]

theorem mapM_mem {α β : Type} (f : α → Except Err β) (l : List α) (rs : List β)
    (h : l.mapM f = .ok rs) : ∀ r ∈ rs, ∃ t ∈ l, f t = .ok r := by
  induction l generalizing rs with
  | nil => rw [List.mapM_nil] at h; cases h; intro r hr; cases hr
  | cons t ts ih =>
    rw [List.mapM_cons] at h
    obtain ⟨r0, hr0, h⟩ := bind_ok h
    obtain ⟨rs', hrs, h⟩ := bind_ok h
    cases h
    intro r hr
    rcases List.mem_cons.mp hr with rfl | hr
    · exact ⟨t, by simp, hr0⟩
    · obtain ⟨q, hq, hq2⟩ := ih rs' hrs r hr
      exact ⟨q, by simp [hq], hq2⟩

/-! ### numbers -/

theorem NonDegG_mulOf (S : DRing K) (d : Nat) (lg : Bool) (l : List E)
    (h : ∀ a ∈ l, NonDegG S d lg a) : NonDegG S d lg (Calc.mulOf l) :=
  mulOf_cases (P := NonDegG S d lg) l (by simp [NonDegG, E.one]) h
    (fun _ _ _ _ => (NonDegG_mul S d lg l).mpr h)

theorem isNumber_mulOf (l : List E) (h : ∀ a ∈ l, PD.isNumber a = true) :
    PD.isNumber (Calc.mulOf l) = true :=
  mulOf_cases (P := fun e => PD.isNumber e = true) l rfl h
    (fun _ _ _ _ => by simp only [PD.isNumber, allNumber_iff, List.all_eq_true]; exact h)

theorem isCoef_isNumber (x : E) (h : PD.isCoef x = true) : PD.isNumber x = true := by
  cases x with
  | num p q => rfl
  | cst s => rfl
  | _ => exact Bool.noConfusion h

theorem isCoef_NonDegG (x : E) (h : PD.isCoef x = true) :
    NonDegG S d lg x := by
  cases x with
  | num p q => simp only [NonDegG]
  | cst s => simp only [NonDegG]
  | _ => exact Bool.noConfusion h

theorem number_const (x : E) (h : Calc.isNumber x = true)
    (hnd : NonDegG S d lg x) (k a b : Nat) : Di S lg k (denG S d lg x a b) = 0 :=
  DG_isNumber S d lg _ x h hnd a b

theorem isCoef_const (x : E) (h : PD.isCoef x = true)
    (k a b : Nat) : Di S lg k (denG S d lg x a b) = 0 :=
  number_const S d lg x (isCoef_isNumber x h) (isCoef_NonDegG S d lg x h) k a b

theorem denGProd_coefs_const (l : List E)
    (h : ∀ x ∈ l, PD.isCoef x = true) (m : Nat) : Di S lg m (denGProd S d lg l 0 0) = 0 :=
  D_denGProd_zero S d lg _ l 0 0 (fun x hx => isCoef_const S d lg x (h x hx) m 0 0)

/-! ### linear functionals of the component function -/

/-- what Curl, Rot, Hessian, Laplace (and Div at a fixed rank) do to the component function of
    their argument: additive, homogeneous for constants, zero on constants -/
structure LinFun (S : DRing K) (lg : Bool) (L : (Nat → Nat → K) → Nat → Nat → K) : Prop where
  add : ∀ f g i j, L (fun a b => f a b + g a b) i j = L f i j + L g i j
  smul : ∀ (c : K), (∀ k, Di S lg k c = 0) → ∀ f i j, L (fun a b => c * f a b) i j = c * L f i j
  const : ∀ f, (∀ k a b, Di S lg k (f a b) = 0) → ∀ i j, L f i j = 0

/-- `op1 o a` denotes `L` applied to the component function of `a` -/
def OpIs (S : DRing K) (d : Nat) (lg : Bool) (o : Op1) (L : (Nat → Nat → K) → Nat → Nat → K)
    (a : E) : Prop :=
  ∀ i j, denG S d lg (op1 o a) i j = L (denG S d lg a) i j

theorem Di_coord (S : DRing K) (lg : Bool) (k : Nat) (x : K) (h : ∀ c, S.D c x = 0) :
    Di S lg k x = 0 := h _

theorem denG_add_fun (as : List E) :
    denG S d lg (add as) = fun i j => denGSum S d lg as i j := by
  funext i j; simp only [denG]

theorem denG_mul_fun (S : DRing K) (d : Nat) (lg : Bool) (as : List E) :
    denG S d lg (mul as) = fun i j => denGProd S d lg as i j := by
  funext i j; simp only [denG]

theorem denGSum_additive (F : (Nat → Nat → K) → K) (h0 : F (fun _ _ => 0) = 0)
    (hadd : ∀ f g, F (fun a b => f a b + g a b) = F f + F g) (as : List E) :
    F (fun a b => denGSum S d lg as a b) = (as.map (fun x => F (denG S d lg x))).sum := by
  induction as with
  | nil => simp only [denGSum, List.map, List.sum_nil]; exact h0
  | cons x xs ih =>
    simp only [denGSum, List.map, List.sum_cons]
    rw [hadd (fun a b => denG S d lg x a b) (fun a b => denGSum S d lg xs a b), ih]

theorem LinFun.sum {S : DRing K} {lg : Bool} {L : (Nat → Nat → K) → Nat → Nat → K}
    (hL : LinFun S lg L) (d : Nat) (as : List E) (i j : Nat) :
    L (fun a b => denGSum S d lg as a b) i j
      = (as.map (fun x => L (denG S d lg x) i j)).sum :=
  denGSum_additive S d lg (fun f => L f i j) (hL.const _ (fun k _ _ => Di_zero S lg k) i j)
    (fun f g => hL.add f g i j) as

theorem LinFun.number {S : DRing K} {lg : Bool} {L : (Nat → Nat → K) → Nat → Nat → K}
    (hL : LinFun S lg L) (d : Nat) (e : E) (hn : PD.isNumber e = true) (hnd : NonDegG S d lg e)
    (i j : Nat) : L (denG S d lg e) i j = 0 :=
  hL.const _ (fun _ a b => DG_isNumber S d lg _ e hn hnd a b) i j

/-! ### the branches shared by all `eval` methods -/

/-- `Add` branch: the terms with functions one by one, the function-free rest together -/
def addBranch (o : Op1) (ev : E → Except Err E) (as : List E) : Except Err E :=
  if !hasFList as then (if PD.allNumber as then .ok zero else .ok (op1 o (add as)))
  else do
    let ra ← (as.filter hasF).mapM ev
    let rest := addOf (as.filter (fun x => !hasF x))
    .ok (add (ra ++ [if Calc.isNumber rest then zero else op1 o rest]))

/-- `Mul` branch of the purely linear operators -/
def mulLin (o : Op1) (as : List E) : Except Err E :=
  if !hasFList as then (if PD.allNumber as then .ok zero else .ok (op1 o (mul as)))
  else .ok (mul [Calc.mulOf (numCoeffs as), op1 o (Calc.mulOf (nonNum as))])

def leafBranch (o : Op1) (e : E) : Except Err E :=
  if !hasF e then (if Calc.isNumber e then .ok zero else .ok (op1 o e)) else atomNode o e

/-- the `Add` branch as the models spell it -/
theorem addBranch_eq (o : Op1) (ev : E → Except Err E) (as : List E) :
    (if !hasFList as then (if PD.allNumber as then .ok zero else .ok (op1 o (add as)))
      else do
        let ra ← seqE (((as.zip (as.map ev)).filter (fun p => hasF p.1)).map (·.2))
        let rest := addOf (as.filter (fun x => !hasF x))
        let rb : E := if Calc.isNumber rest then zero else op1 o rest
        .ok (add (ra ++ [rb]))) = addBranch o ev as := by
  rw [zip_map_filter, List.map_map, seqE_map]
  rfl

theorem guard_ok {c : Prop} [Decidable c] {a r : E} {x : Err}
    (h : (if c then .ok a else .error x : Except Err E) = .ok r) : r = a := by
  split at h
  · injection h with h; exact h.symm
  · cases h

theorem atomNode_ok (o : Op1) (e r : E) (h : atomNode o e = .ok r) : r = op1 o e := by
  unfold atomNode at h
  split at h
  · exact guard_ok h
  · exact guard_ok h
  · split at h
    · exact guard_ok h
    · cases h
  · split at h
    · exact guard_ok h
    · cases h
  · injection h with h; exact h.symm

theorem numOrNode_sound (o : Op1)
    (L : (Nat → Nat → K) → Nat → Nat → K) (hL : LinFun S lg L) (e : E)
    (hop : OpIs S d lg o L e) (hnd : NonDegG S d lg e) (b : Bool)
    (hb : b = true → PD.isNumber e = true) (r : E)
    (h : (if b = true then Except.ok zero else Except.ok (op1 o e)) = (Except.ok r : Except Err E)) :
    ∀ i j, denG S d lg r i j = denG S d lg (op1 o e) i j := by
  intro i j
  split at h
  · rename_i hn
    injection h with h; subst h
    rw [denG_zero, hop i j, hL.number d e (hb hn) hnd]
  · injection h with h; subst h; rfl

theorem leafBranch_sound (o : Op1)
    (L : (Nat → Nat → K) → Nat → Nat → K) (hL : LinFun S lg L) (e : E)
    (hop : OpIs S d lg o L e) (hnd : NonDegG S d lg e) (r : E) (h : leafBranch o e = .ok r) :
    ∀ i j, denG S d lg r i j = denG S d lg (op1 o e) i j := by
  unfold leafBranch at h
  split at h
  · exact numOrNode_sound S d lg o L hL e hop hnd _ id r h
  · rw [atomNode_ok o e r h]; exact fun _ _ => rfl

theorem addBranch_sound (o : Op1)
    (L : (Nat → Nat → K) → Nat → Nat → K) (hL : LinFun S lg L)
    (ev : E → Except Err E) (as : List E)
    (hterm : ∀ a ∈ as, OpIs S d lg o L a)
    (hsum : OpIs S d lg o L (add as))
    (hrest : OpIs S d lg o L (addOf (as.filter (fun x => !hasF x))))
    (hnd : NonDegG S d lg (add as))
    (ih : ∀ a ∈ as, ∀ r, ev a = .ok r → ∀ i j, denG S d lg r i j = denG S d lg (op1 o a) i j)
    (r : E) (h : addBranch o ev as = .ok r) :
    ∀ i j, denG S d lg r i j = denG S d lg (op1 o (add as)) i j := by
  unfold addBranch at h
  split at h
  · exact numOrNode_sound S d lg o L hL _ hsum hnd _ id r h
  · intro i j
    obtain ⟨ra, hra, h⟩ := bind_ok h
    injection h with h; subst h
    have hnd' := (NonDegG_add S d lg as).mp hnd
    have hrb : denG S d lg (if Calc.isNumber (addOf (as.filter (fun x => !hasF x))) = true then zero
          else op1 o (addOf (as.filter (fun x => !hasF x)))) i j
        = ((as.filter (fun x => !hasF x)).map (fun x => L (denG S d lg x) i j)).sum := by
      have hr : L (denG S d lg (addOf (as.filter (fun x => !hasF x)))) i j
          = ((as.filter (fun x => !hasF x)).map (fun x => L (denG S d lg x) i j)).sum := by
        have : denG S d lg (addOf (as.filter (fun x => !hasF x)))
            = fun a b => denGSum S d lg (as.filter (fun x => !hasF x)) a b := by
          funext a b; exact denG_addOf S d lg _ a b
        rw [this, hL.sum]
      rw [← hr]
      split
      · rename_i hnum
        rw [denG_zero, hL.number d _ hnum
          (NonDegG_addOf S d lg _ (fun a ha => hnd' a (List.mem_filter.mp ha).1))]
      · exact hrest i j
    rw [hsum i j, denG_add_fun S d lg as, hL.sum d as i j,
      sum_map_filter hasF (fun x => L (denG S d lg x) i j) as]
    simp only [denG]
    rw [denGSum_append, denGSum_eq,
      mapM_map_eq ev (fun r => denG S d lg r i j) (fun a => L (denG S d lg a) i j) _
        (fun a ha r hr => by
          have ha' := (List.mem_filter.mp ha).1
          rw [ih a ha' r hr i j, hterm a ha' i j]) ra hra]
    simp only [denGSum, add_zero, hrb]

theorem pullNum_sound (o : Op1)
    (L : (Nat → Nat → K) → Nat → Nat → K) (hL : LinFun S lg L) (as : List E)
    (hprod : OpIs S d lg o L (mul as))
    (hnn : OpIs S d lg o L (Calc.mulOf (nonNum as)))
    (hnd : NonDegG S d lg (mul as)) :
    ∀ i j, denG S d lg (mul [Calc.mulOf (numCoeffs as), op1 o (Calc.mulOf (nonNum as))]) i j
      = denG S d lg (op1 o (mul as)) i j := by
  intro i j
  have hnd' := (NonDegG_mul S d lg as).mp hnd
  have hnums : ∀ a ∈ numCoeffs as, PD.isNumber a = true := fun a ha => (List.mem_filter.mp ha).2
  have hfree : ∀ a b, denGProd S d lg (numCoeffs as) a b = denGProd S d lg (numCoeffs as) 0 0 :=
    fun a b => denGProd_scal_free S d lg _ (fun x hx => isNumber_Scal d x (hnums x hx)) a b
  have hc : ∀ k, Di S lg k (denGProd S d lg (numCoeffs as) 0 0) = 0 := fun k =>
    DG_prod_numbers S d lg _ _ hnums (fun a ha => hnd' a (List.mem_filter.mp ha).1) 0 0
  have hfun : denG S d lg (mul as)
      = fun a b => denGProd S d lg (numCoeffs as) 0 0 * denG S d lg (Calc.mulOf (nonNum as)) a b := by
    funext a b
    simp only [denG, denG_mulOf]
    rw [denGProd_filter S d lg Calc.isNumber as a b, ← hfree a b]
    rfl
  rw [hprod i j, hfun, hL.smul _ hc, denG_mul2, denG_mulOf, hfree i j, hnn i j]

theorem mulLin_sound (o : Op1)
    (L : (Nat → Nat → K) → Nat → Nat → K) (hL : LinFun S lg L) (as : List E)
    (hprod : OpIs S d lg o L (mul as))
    (hnn : OpIs S d lg o L (Calc.mulOf (nonNum as)))
    (hnd : NonDegG S d lg (mul as))
    (r : E) (h : mulLin o as = .ok r) :
    ∀ i j, denG S d lg r i j = denG S d lg (op1 o (mul as)) i j := by
  unfold mulLin at h
  split at h
  · exact numOrNode_sound S d lg o L hL _ hprod hnd _ id r h
  · injection h with h; subst h
    exact pullNum_sound S d lg o L hL as hprod hnn hnd

theorem gradEvalListE_eq (as : List E) : gradEvalListE d as = as.map (gradEval d) :=
  eq_map_of_eqns _ _ rfl (fun _ _ => rfl) as

theorem linEvalListE_eq (o : Op1) (as : List E) : linEvalListE o as = as.map (linEval o) :=
  eq_map_of_eqns _ _ rfl (fun _ _ => rfl) as

theorem curlEvalListE_eq (as : List E) : curlEvalListE d as = as.map (curlEval d) :=
  eq_map_of_eqns _ _ rfl (fun _ _ => rfl) as

theorem laplaceEvalListE_eq (as : List E) :
    laplaceEvalListE d as = as.map (laplaceEval d) :=
  eq_map_of_eqns _ _ rfl (fun _ _ => rfl) as

theorem divEvalListE_eq (as : List E) : divEvalListE d as = as.map (divEval d) :=
  eq_map_of_eqns _ _ rfl (fun _ _ => rfl) as

theorem gradEval_add (as : List E) :
    gradEval d (add as) = addBranch .grad (gradEval d) as := by
  rw [gradEval, gradEvalListE_eq]; exact addBranch_eq _ _ as

theorem linEval_add (o : Op1) (as : List E) : linEval o (add as) = addBranch o (linEval o) as := by
  rw [linEval, linEvalListE_eq]; exact addBranch_eq _ _ as

theorem curlEval_add (as : List E) :
    curlEval d (add as) = addBranch .curl (curlEval d) as := by
  rw [curlEval, curlEvalListE_eq]; exact addBranch_eq _ _ as

theorem laplaceEval_add (as : List E) :
    laplaceEval d (add as) = addBranch .laplace (laplaceEval d) as := by
  rw [laplaceEval, laplaceEvalListE_eq]; exact addBranch_eq _ _ as

theorem divEval_add (as : List E) :
    divEval d (add as) = addBranch .div (divEval d) as := by
  rw [divEval, divEvalListE_eq]; exact addBranch_eq _ _ as

theorem linEval_mul (o : Op1) (as : List E) : linEval o (mul as) = mulLin o as := by
  simp only [linEval, mulLin]

theorem curlEval_mul (as : List E) : curlEval d (mul as) = mulLin .curl as := by
  simp only [curlEval, mulLin]

/-! ### the concrete operators as linear functionals -/

/-- gradient of a scalar -/
def gradSem (S : DRing K) (lg : Bool) (f : Nat → Nat → K) (i _j : Nat) : K := Di S lg i (f 0 0)

def curlSem (S : DRing K) (d : Nat) (lg : Bool) (f : Nat → Nat → K) (i _j : Nat) : K :=
  if d = 3 then
    (match i with
     | 0 => Di S lg 1 (f 2 0) - Di S lg 2 (f 1 0)
     | 1 => Di S lg 2 (f 0 0) - Di S lg 0 (f 2 0)
     | _ => Di S lg 0 (f 1 0) - Di S lg 1 (f 0 0))
  else Di S lg 0 (f 1 0) - Di S lg 1 (f 0 0)

def rotSem (S : DRing K) (lg : Bool) (f : Nat → Nat → K) (i _j : Nat) : K :=
  match i with
  | 0 => Di S lg 1 (f 0 0)
  | _ => - Di S lg 0 (f 0 0)

def hessSem (S : DRing K) (lg : Bool) (f : Nat → Nat → K) (i j : Nat) : K :=
  Di S lg i (Di S lg j (f 0 0))

def lapSem (S : DRing K) (d : Nat) (lg : Bool) (f : Nat → Nat → K) (i j : Nat) : K :=
  sumN d (fun k => Di S lg k (Di S lg k (f i j)))

/-- divergence of a field of tensor rank `r` -/
def divSem (S : DRing K) (d : Nat) (lg : Bool) (r : Nat) (f : Nat → Nat → K) (i _j : Nat) : K :=
  if r = 1 then sumN d (fun k => Di S lg k (f k 0)) else sumN d (fun k => Di S lg k (f k i))

theorem grad_lin : LinFun S lg (gradSem S lg) where
  add := fun _ _ i _ => Di_add S lg i _ _
  smul := fun c hc _ i _ => Di_smul S lg i c _ (hc i)
  const := fun _ hf i _ => hf i 0 0

theorem curl_lin : LinFun S lg (curlSem S d lg) where
  add := by
    intro f g i j
    unfold curlSem
    split
    · split <;> (simp only [Di_add]; ring)
    · simp only [Di_add]; ring
  smul := by
    intro c hc f i j
    unfold curlSem
    split
    · split <;> (simp only [Di_smul S lg _ c _ (hc _)]; ring)
    · simp only [Di_smul S lg _ c _ (hc _)]; ring
  const := by
    intro f hf i j
    unfold curlSem
    split
    · split <;> (simp only [hf]; ring)
    · simp only [hf]; ring

theorem rot_lin : LinFun S lg (rotSem S lg) where
  add := by
    intro f g i j
    unfold rotSem
    split <;> simp only [Di_add] <;> ring
  smul := by
    intro c hc f i j
    unfold rotSem
    split <;> simp only [Di_smul S lg _ c _ (hc _)] <;> ring
  const := by
    intro f hf i j
    unfold rotSem
    split <;> simp only [hf] <;> ring

theorem hess_lin : LinFun S lg (hessSem S lg) where
  add := by
    intro f g i j
    simp only [hessSem, Di_add]
  smul := by
    intro c hc f i j
    simp only [hessSem]
    rw [Di_smul S lg _ c _ (hc _), Di_smul S lg _ c _ (hc _)]
  const := by
    intro f hf i j
    simp only [hessSem, hf, Di_zero]

theorem lap_lin : LinFun S lg (lapSem S d lg) where
  add := by
    intro f g i j
    simp only [lapSem, Di_add, sumN_add]
  smul := by
    intro c hc f i j
    simp only [lapSem]
    rw [← sumN_mul_left]
    apply sumN_congr
    intro k _
    rw [Di_smul S lg _ c _ (hc _), Di_smul S lg _ c _ (hc _)]
  const := by
    intro f hf i j
    simp only [lapSem, hf, Di_zero, sumN_zero]

theorem div_lin (r : Nat) : LinFun S lg (divSem S d lg r) where
  add := by
    intro f g i j
    unfold divSem
    split <;> simp only [Di_add, sumN_add]
  smul := by
    intro c hc f i j
    unfold divSem
    split
    all_goals
      rw [← sumN_mul_left]
      apply sumN_congr
      intro k _
      rw [Di_smul S lg _ c _ (hc _)]
  const := by
    intro f hf i j
    unfold divSem
    split <;> simp only [hf, sumN_zero]

theorem grad_is (a : E) (h : Scal d a = true) :
    OpIs S d lg .grad (gradSem S lg) a :=
  fun i j => denG_grad_scal S d lg a h i j

theorem curl_is (a : E) : OpIs S d lg .curl (curlSem S d lg) a := by
  intro i j; simp only [denG, curlSem]; rcases i with _ | _ | i <;> rfl

theorem rot_is (a : E) : OpIs S d lg .rot (rotSem S lg) a := by
  intro i j; simp only [denG, rotSem]; rcases i with _ | i <;> rfl

theorem hess_is (a : E) : OpIs S d lg .hessian (hessSem S lg) a := by
  intro i j; simp only [denG, hessSem]

theorem lap_is (a : E) : OpIs S d lg .laplace (lapSem S d lg) a := by
  intro i j; simp only [denG, lapSem]

theorem div_is (a : E) (r : Nat) (h : rank d a = r) :
    OpIs S d lg .div (divSem S d lg r) a := by
  subst h; intro i j; simp only [denG, divSem]

/-! ### bilinear products -/

/-- meaning of Dot / Cross / Inner / Outer / Convect on component functions; `ma`, `mb` say
    whether the arguments are matrices (tensor rank 2) -/
def bilSem (S : DRing K) (d : Nat) (lg : Bool) (k : BK) (ma mb : Bool)
    (f g : Nat → Nat → K) (i j : Nat) : K :=
  match k with
  | .dot =>
      if ma then sumN d (fun k => f i k * g k 0)
      else if mb then sumN d (fun k => g i k * f k 0)
      else sumN d (fun k => f k 0 * g k 0)
  | .cross =>
      if d = 3 then
        (match i with
         | 0 => f 1 0 * g 2 0 - f 2 0 * g 1 0
         | 1 => f 2 0 * g 0 0 - f 0 0 * g 2 0
         | _ => f 0 0 * g 1 0 - f 1 0 * g 0 0)
      else f 0 0 * g 1 0 - f 1 0 * g 0 0
  | .inner =>
      if ma then sumN d (fun k => sumN d (fun l => f k l * g k l))
      else sumN d (fun k => f k 0 * g k 0)
  | .outer => f i 0 * g j 0
  | .convect => sumN d (fun k => f k 0 * Di S lg k (g i 0))

def isMat (d : Nat) (e : E) : Bool := rank d e == 2

theorem isMat_of_rank_le (t : E) (h : rank d t ≤ 1) : isMat d t = false := by
  simp only [isMat, beq_eq_false_iff_ne, ne_eq]; omega

theorem bil_is (k : BK) (a b : E) (i j : Nat) :
    denG S d lg (op2 k.op a b) i j
      = bilSem S d lg k (isMat d a) (isMat d b) (denG S d lg a) (denG S d lg b) i j := by
  cases k <;> simp only [BK.op, denG, bilSem, isMat, beq_iff_eq]
  · rcases i with _ | _ | i <;> rfl

theorem dot_vec (a b : E) (ha : isMat d a = false)
    (hb : isMat d b = false) (i j : Nat) :
    denG S d lg (op2 .dot a b) i j = sumN d (fun k => denG S d lg a k 0 * denG S d lg b k 0) := by
  have e1 := bil_is S d lg .dot a b i j
  simp only [BK.op] at e1
  rw [e1, ha, hb]
  simp only [bilSem, Bool.false_eq_true, if_false]

theorem sumN_neg {K : Type} [CommRing K] (d : Nat) (f : Nat → K) :
    sumN d (fun i => - f i) = - sumN d f := by
  induction d with
  | zero => simp [sumN]
  | succ n ih => simp only [sumN, ih]; ring

theorem sumN_lin {K : Type} [CommRing K] (n : Nat) (c : K) (u v w : Nat → K)
    (h : ∀ k, w k = c * u k + v k) : sumN n w = c * sumN n u + sumN n v := by
  rw [← sumN_mul_left, ← sumN_add]
  exact sumN_congr n _ _ (fun k _ => h k)

theorem bil_lin_left (k : BK) (ma mb : Bool) (c : K)
    (f1 f2 g : Nat → Nat → K) (i j : Nat) :
    bilSem S d lg k ma mb (fun a b => c * f1 a b + f2 a b) g i j
      = c * bilSem S d lg k ma mb f1 g i j + bilSem S d lg k ma mb f2 g i j := by
  cases k <;> simp only [bilSem]
  · split
    · exact sumN_lin d c _ _ _ (fun k => by ring)
    · split
      · exact sumN_lin d c _ _ _ (fun k => by ring)
      · exact sumN_lin d c _ _ _ (fun k => by ring)
  · split
    · split <;> ring
    · ring
  · split
    · exact sumN_lin d c _ _ _ (fun k => sumN_lin d c _ _ _ (fun l => by ring))
    · exact sumN_lin d c _ _ _ (fun k => by ring)
  · ring
  · exact sumN_lin d c _ _ _ (fun k => by ring)

/-- linear in the second argument — for Convect only with a constant factor -/
theorem bil_lin_right (k : BK) (ma mb : Bool) (c : K)
    (hc : k = .convect → ∀ m, Di S lg m c = 0)
    (f g1 g2 : Nat → Nat → K) (i j : Nat) :
    bilSem S d lg k ma mb f (fun a b => c * g1 a b + g2 a b) i j
      = c * bilSem S d lg k ma mb f g1 i j + bilSem S d lg k ma mb f g2 i j := by
  cases k <;> simp only [bilSem]
  · split
    · exact sumN_lin d c _ _ _ (fun k => by ring)
    · split
      · exact sumN_lin d c _ _ _ (fun k => by ring)
      · exact sumN_lin d c _ _ _ (fun k => by ring)
  · split
    · split <;> ring
    · ring
  · split
    · exact sumN_lin d c _ _ _ (fun k => sumN_lin d c _ _ _ (fun l => by ring))
    · exact sumN_lin d c _ _ _ (fun k => by ring)
  · ring
  · exact sumN_lin d c _ _ _ (fun k => by rw [Di_add, Di_smul S lg k c _ (hc rfl k)]; ring)

theorem bil_zero_left (k : BK) (ma mb : Bool)
    (g : Nat → Nat → K) (i j : Nat) :
    bilSem S d lg k ma mb (fun _ _ => 0) g i j = 0 := by
  have := bil_lin_left S d lg k ma mb (-1) (fun _ _ => 0) (fun _ _ => 0) g i j
  simp only [mul_zero, add_zero] at this
  linear_combination this

theorem bil_smul_left (k : BK) (ma mb : Bool) (c : K)
    (f g : Nat → Nat → K) (i j : Nat) :
    bilSem S d lg k ma mb (fun a b => c * f a b) g i j = c * bilSem S d lg k ma mb f g i j := by
  have := bil_lin_left S d lg k ma mb c f (fun _ _ => 0) g i j
  simpa only [add_zero, bil_zero_left] using this

theorem bil_zero_right (k : BK) (ma mb : Bool)
    (f : Nat → Nat → K) (i j : Nat) :
    bilSem S d lg k ma mb f (fun _ _ => 0) i j = 0 := by
  have := bil_lin_right S d lg k ma mb (-1) (fun _ m => by rw [Di_neg, Di_one, neg_zero])
    f (fun _ _ => 0) (fun _ _ => 0) i j
  simp only [mul_zero, add_zero] at this
  linear_combination this

theorem bil_convect_const (ma mb : Bool)
    (f g : Nat → Nat → K) (hg : ∀ m a b, Di S lg m (g a b) = 0) (i j : Nat) :
    bilSem S d lg .convect ma mb f g i j = 0 := by
  simp only [bilSem, hg, mul_zero, sumN_zero]

theorem bil_smul_right (k : BK) (ma mb : Bool) (c : K)
    (hc : k = .convect → ∀ m, Di S lg m c = 0)
    (f g : Nat → Nat → K) (i j : Nat) :
    bilSem S d lg k ma mb f (fun a b => c * g a b) i j = c * bilSem S d lg k ma mb f g i j := by
  have := bil_lin_right S d lg k ma mb c hc f g (fun _ _ => 0) i j
  simpa only [add_zero, bil_zero_right] using this

theorem bil_cross_self (ma mb : Bool)
    (f : Nat → Nat → K) (i j : Nat) : bilSem S d lg .cross ma mb f f i j = 0 := by
  simp only [bilSem]
  split
  · split <;> ring
  · ring

theorem bil_flags (k : BK) (ma mb ma' mb' : Bool)
    (h : k = .convect ∨ k = .cross ∨ k = .outer ∨ (ma = ma' ∧ mb = mb'))
    (f g : Nat → Nat → K) (i j : Nat) :
    bilSem S d lg k ma mb f g i j = bilSem S d lg k ma' mb' f g i j := by
  rcases h with rfl | rfl | rfl | ⟨rfl, rfl⟩ <;> rfl

theorem bil_sum_left (k : BK) (ma mb : Bool)
    (as : List E) (g : Nat → Nat → K) (i j : Nat) :
    bilSem S d lg k ma mb (fun a b => denGSum S d lg as a b) g i j
      = (as.map (fun t => bilSem S d lg k ma mb (denG S d lg t) g i j)).sum :=
  denGSum_additive S d lg (fun f => bilSem S d lg k ma mb f g i j) (bil_zero_left S d lg k ma mb g i j)
    (fun f1 f2 => by simpa only [one_mul] using bil_lin_left S d lg k ma mb 1 f1 f2 g i j) as

theorem bil_sum_right (k : BK) (ma mb : Bool)
    (f : Nat → Nat → K) (bs : List E) (i j : Nat) :
    bilSem S d lg k ma mb f (fun a b => denGSum S d lg bs a b) i j
      = (bs.map (fun t => bilSem S d lg k ma mb f (denG S d lg t) i j)).sum :=
  denGSum_additive S d lg (fun g => bilSem S d lg k ma mb f g i j) (bil_zero_right S d lg k ma mb f i j)
    (fun g1 g2 => by
      simpa only [one_mul] using
        bil_lin_right S d lg k ma mb 1 (fun _ m => Di_one S lg m) f g1 g2 i j) bs

/-! ### factors -/

theorem denG_factors (e : E) (i j : Nat) :
    denG S d lg e i j = denGProd S d lg (factors e) i j := by
  cases e with
  | mul as => simp only [factors, denG]
  | _ => simp only [factors, denGProd, mul_one]

theorem rankMax_filter (p : E → Bool) (l : List E)
    (h : ∀ x ∈ l, p x = true → rank d x = 0) :
    rankMax d l = rankMax d (l.filter (fun x => !p x)) := by
  induction l with
  | nil => simp [rankMax]
  | cons a l ih =>
    have ih' := ih (fun x hx => h x (by simp [hx]))
    simp only [List.filter]
    cases hp : p a
    · simp [rankMax, ih']
    · simp [rankMax, ih', h a (by simp) hp]

theorem rank_mulOf (l : List E) : rank d (Calc.mulOf l) = rankMax d l := by
  match l with
  | [] => rfl
  | [a] => simp [Calc.mulOf, PD.mulOf, rankMax]
  | a :: b :: rest => simp [Calc.mulOf, PD.mulOf, rank]

theorem rank_factors (e : E) : rank d e = rankMax d (factors e) := by
  cases e with
  | mul as => simp only [factors, rank]
  | _ => simp only [factors, rankMax, Nat.max_zero]

def csOK (d : Nat) (x : E) : Bool := !isComm d x || Scal d x

/-- every factor flagged commutative is a genuine scalar -/
def facOK (d : Nat) (e : E) : Bool := (factors e).all (csOK d)

theorem facOK_iff (e : E) :
    facOK d e = true ↔ ∀ x ∈ factors e, isComm d x = true → Scal d x = true := by
  simp only [facOK, List.all_eq_true, csOK, Bool.or_eq_true, Bool.not_eq_true']
  refine forall₂_congr (fun x _ => ?_)
  cases isComm d x <;> simp

theorem factors_split (p : E → Bool) (e : E)
    (h : ∀ x ∈ factors e, p x = true → Scal d x = true) :
    (denG S d lg e = fun a b => denGProd S d lg ((factors e).filter p) 0 0
        * denG S d lg (Calc.mulOf ((factors e).filter (fun x => !p x))) a b)
    ∧ isMat d e = isMat d (Calc.mulOf ((factors e).filter (fun x => !p x))) := by
  constructor
  · funext a b
    rw [denG_factors, denGProd_filter S d lg p (factors e) a b, denG_mulOf,
      denGProd_scal_free S d lg _ (fun x hx => h x (List.mem_filter.mp hx).1 (List.mem_filter.mp hx).2)]
  · rw [isMat, isMat, rank_mulOf, rank_factors,
      rankMax_filter d p (factors e) (fun x hx hp => Scal_rank d x (h x hx hp))]

theorem denG_isZeroNum (x : E) (h : isZeroNum x = true)
    (i j : Nat) : denG S d lg x i j = 0 := by
  cases x with
  | num p q =>
    simp only [isZeroNum, beq_iff_eq] at h
    subst h
    simp [denG]
  | _ => exact Bool.noConfusion h

theorem isZeroV_zero (e : E) (h : isZeroV e = true) :
    ∀ i j, denG S d lg e i j = 0 := by
  intro i j
  cases e with
  | num p q => exact denG_isZeroNum S d lg (num p q) h i j
  | mat r c es =>
    simp only [isZeroV, List.all_eq_true] at h
    have key : ∀ (l : List E) (n : Nat), (∀ x ∈ l, isZeroNum x = true) → denGNth S d lg l n = 0 := by
      intro l
      induction l with
      | nil => intro n _; rfl
      | cons x xs ih =>
        intro n hl
        cases n with
        | zero => exact denG_isZeroNum S d lg x (hl x (by simp)) 0 0
        | succ n => exact ih n (fun y hy => hl y (by simp [hy]))
    simp only [denG]
    split
    · exact key es _ h
    · rfl
  | _ => exact Bool.noConfusion h

/-- conditions under which the zero short-cuts of the bilinear constructors are taken -/
theorem shortcut_sound (k : BK) (a1 a2 : E)
    (hnd : k = .convect → NonDegG S d lg a2)
    (h : (k == .cross && a1 == a2) = true
      ∨ (if k == .convect then isZeroV a1 || Calc.isNumber a2 else isZeroV a1 || isZeroV a2) = true)
    (i j : Nat) : denG S d lg (op2 k.op a1 a2) i j = 0 := by
  rw [bil_is]
  rcases h with h | h
  · simp only [Bool.and_eq_true, beq_iff_eq] at h
    obtain ⟨rfl, rfl⟩ := h
    exact bil_cross_self S d lg _ _ _ i j
  · have hz1 : isZeroV a1 = true →
        bilSem S d lg k (isMat d a1) (isMat d a2) (denG S d lg a1) (denG S d lg a2) i j = 0 := by
      intro hz
      rw [funext₂ (isZeroV_zero S d lg a1 hz)]
      exact bil_zero_left S d lg k _ _ _ i j
    by_cases hk : k = .convect
    · subst hk
      simp only [beq_self_eq_true, if_true, Bool.or_eq_true] at h
      rcases h with h | h
      · exact hz1 h
      · exact bil_convect_const S d lg _ _ _ _ (fun m a b => number_const S d lg a2 h (hnd rfl) m a b) i j
    · have hk' : (k == BK.convect) = false := by simpa using hk
      simp only [hk', Bool.false_eq_true, if_false, Bool.or_eq_true] at h
      rcases h with h | h
      · exact hz1 h
      · rw [funext₂ (isZeroV_zero S d lg a2 h)]
        exact bil_zero_right S d lg k _ _ _ i j

/-- the two zero short-cuts in front of `mkCore`, `mkRight`, `mkBilin` -/
theorem shortcuts_sound (k : BK) (a1 a2 : E)
    (hnd : k = .convect → NonDegG S d lg a2) (X : Except Err E) (r : E)
    (h : (if k == .cross && a1 == a2 then .ok zero
          else if (if k == .convect then isZeroV a1 || Calc.isNumber a2 else isZeroV a1 || isZeroV a2)
            then .ok zero else X) = .ok r)
    (hX : X = .ok r → ∀ i j, denG S d lg r i j = denG S d lg (op2 k.op a1 a2) i j) :
    ∀ i j, denG S d lg r i j = denG S d lg (op2 k.op a1 a2) i j := by
  split at h
  · rename_i hc
    injection h with h; subst h
    intro i j
    rw [denG_zero, shortcut_sound S d lg k a1 a2 hnd (Or.inl hc)]
  · by_cases hc : (if k == .convect then isZeroV a1 || Calc.isNumber a2
        else isZeroV a1 || isZeroV a2) = true
    · rw [if_pos hc] at h
      injection h with h; subst h
      intro i j
      rw [denG_zero, shortcut_sound S d lg k a1 a2 hnd (Or.inr hc)]
    · rw [if_neg hc] at h
      exact hX h

/-- the node built for two non-sum arguments: scalar factors out, constants only out of the
    second argument of Convect -/
theorem mkCore_sound (k : BK) (a1 a2 : E)
    (h1 : facOK d a1 = true) (h2 : k = .convect ∨ facOK d a2 = true)
    (hnd : k = .convect → NonDegG S d lg a2)
    (r : E) (h : mkCore d k a1 a2 = .ok r) :
    ∀ i j, denG S d lg r i j = denG S d lg (op2 k.op a1 a2) i j := by
  unfold mkCore at h
  refine shortcuts_sound S d lg k a1 a2 hnd _ r h (fun h => ?_)
  -- what is taken out of the second argument
  have hp2 : ∃ p2 : E → Bool,
      (if k == .convect then (factors a2).filter (fun x => !isCoef x)
        else (factors a2).filter (fun x => !isComm d x)) = (factors a2).filter (fun x => !p2 x)
      ∧ (if k == .convect then (factors a2).filter (fun x => isCoef x)
        else (factors a2).filter (fun x => isComm d x)) = (factors a2).filter p2
      ∧ (∀ x ∈ factors a2, p2 x = true → Scal d x = true)
      ∧ (k = .convect → ∀ x ∈ (factors a2).filter p2, PD.isCoef x = true) := by
    by_cases hk : k = .convect
    · subst hk
      exact ⟨isCoef, rfl, rfl, fun x _ hx => isNumber_Scal d x (isCoef_isNumber x hx),
        fun _ x hx => (List.mem_filter.mp hx).2⟩
    · have hk' : (k == BK.convect) = false := by simpa using hk
      refine ⟨isComm d, by rw [hk']; rfl, by rw [hk']; rfl, ?_, fun hkc => absurd hkc hk⟩
      exact (facOK_iff d a2).mp (h2.resolve_left hk)
  obtain ⟨p2, hn2, hc2, hs2, hcoef⟩ := hp2
  simp only [hn2, hc2] at h
  obtain ⟨e1, m1⟩ := factors_split S d lg (isComm d) a1 ((facOK_iff d a1).mp h1)
  obtain ⟨e2, m2⟩ := factors_split S d lg p2 a2 hs2
  have hconst : k = .convect → ∀ m, Di S lg m (denGProd S d lg ((factors a2).filter p2) 0 0) = 0 :=
    fun hk m => denGProd_coefs_const S d lg _ (hcoef hk) m
  intro i j
  split at h
  · -- Convect: nothing but coefficients in the second argument
    rename_i hemp
    simp only [Bool.and_eq_true, beq_iff_eq, List.isEmpty_iff] at hemp
    injection h with h; subst h
    obtain ⟨rfl, hnil⟩ := hemp
    rw [denG_zero, bil_is]
    symm
    refine bil_convect_const S d lg _ _ _ _ (fun m a b => ?_) i j
    rw [e2, hnil]
    simp only [Calc.mulOf, PD.mulOf, denG_one, mul_one]
    exact hconst rfl m
  · split at h
    · cases h
    · injection h with h; subst h
      rw [denG_mul3, denG_mulOf, denG_mulOf, bil_is, bil_is, ← m1, ← m2]
      conv_rhs => rw [e1, e2]
      rw [bil_smul_left, bil_smul_right S d lg k _ _ _ hconst,
        denGProd_scal_free S d lg _
          (fun x hx => (facOK_iff d a1).mp h1 x (List.mem_filter.mp hx).1 (List.mem_filter.mp hx).2) i j,
        denGProd_scal_free S d lg _
          (fun x hx => hs2 x (List.mem_filter.mp hx).1 (List.mem_filter.mp hx).2) i j]

theorem splitAdd_sound (i j : Nat) (f : E → Except Err E)
    (X : E → K) (as : List E)
    (hf : ∀ t ∈ as, ∀ r, f t = .ok r → denG S d lg r i j = X t)
    (r : E) (h : splitAdd f as = .ok r) :
    denG S d lg r i j = (as.map X).sum := by
  unfold splitAdd at h
  simp only at h
  rw [sum_map_filter hasF X as]
  have fin : ∀ (rb : Except Err E) (Y : K), (∀ v, rb = .ok v → denG S d lg v i j = Y) →
      (do let ra ← (as.filter hasF).mapM f; let rb ← rb; (Except.ok (add (ra ++ [rb])) : Except Err E))
        = .ok r →
      denG S d lg r i j = ((as.filter hasF).map X).sum + Y := by
    intro rb Y hrb h
    obtain ⟨ra, hra, h⟩ := bind_ok h
    obtain ⟨v, hv, h⟩ := bind_ok h
    injection h with h; subst h
    simp only [denG]
    rw [denGSum_append, denGSum_eq, mapM_map_eq f _ X _
      (fun t ht => hf t (List.mem_filter.mp ht).1) ra hra]
    simp only [denGSum, add_zero, hrb v hv]
  match hm : as.filter (fun x => !hasF x) with
  | x :: y :: rest => rw [hm] at h; cases h
  | [] =>
    rw [hm] at h
    have := fin (.ok zero) 0 (fun v hv => by injection hv with hv; subst hv; exact denG_zero S d lg i j) h
    simpa using this
  | [x] =>
    rw [hm] at h
    have hxm : x ∈ as := (List.mem_filter.mp (by rw [hm]; simp : x ∈ as.filter _)).1
    have := fin (f x) (X x) (hf x hxm) h
    simpa using this

/-- admissible argument of a bilinear constructor: in every term (of a sum) the factors flagged
    commutative are genuine scalars, and the terms of a sum are all matrices or all not -/
def BilOK (d : Nat) : E → Bool
  | add as => as.all (fun t => facOK d t && (isMat d t == isMat d (add as)))
  | e => facOK d e

theorem BilOK_nonadd (e : E) (h : ∀ as, e = add as → False) : BilOK d e = facOK d e := by
  cases e with
  | add as => exact absurd rfl (h as)
  | _ => rfl

theorem BilOK_add (as : List E) :
    BilOK d (add as) = true ↔ ∀ t ∈ as, facOK d t = true ∧ isMat d t = isMat d (add as) := by
  simp only [BilOK, List.all_eq_true, Bool.and_eq_true, beq_iff_eq]

theorem mkRight_sound (k : BK) (a1 a2 : E)
    (h1 : facOK d a1 = true) (h2 : k = .convect ∨ BilOK d a2 = true)
    (hnd : k = .convect → NonDegG S d lg a2)
    (r : E) (h : mkRight d k a1 a2 = .ok r) :
    ∀ i j, denG S d lg r i j = denG S d lg (op2 k.op a1 a2) i j := by
  unfold mkRight at h
  refine shortcuts_sound S d lg k a1 a2 hnd _ r h (fun h => ?_)
  cases a2 with
  | add bs =>
    intro i j
    have hterm : ∀ t ∈ bs, (k = .convect ∨ facOK d t = true)
        ∧ (k = .convect ∨ isMat d t = isMat d (add bs)) := fun t ht =>
      h2.elim (fun hk => ⟨Or.inl hk, Or.inl hk⟩)
        (fun hb => ⟨Or.inr ((BilOK_add d bs).mp hb t ht).1, Or.inr ((BilOK_add d bs).mp hb t ht).2⟩)
    rw [splitAdd_sound S d lg i j _ (fun t => denG S d lg (op2 k.op a1 t) i j) bs
      (fun t ht r hr => mkCore_sound S d lg k a1 t h1 (hterm t ht).1
        (fun hk => (NonDegG_add S d lg bs).mp (hnd hk) t ht) r hr i j) r h,
      bil_is, denG_add_fun S d lg bs, bil_sum_right]
    congr 1
    apply List.map_congr_left
    intro t ht
    rw [bil_is]
    apply bil_flags
    exact (hterm t ht).2.elim Or.inl (fun hm => Or.inr (Or.inr (Or.inr ⟨rfl, hm⟩)))
  | _ =>
    refine mkCore_sound S d lg k a1 _ h1 (h2.imp_right (fun hb => ?_)) hnd r h
    rw [← BilOK_nonadd d _ (fun as has => by cases has)]
    exact hb

/-! ### Poisson bracket -/

/-- [u, v] = ∂₀u ∂₁v − ∂₁u ∂₀v on values -/
def brk (S : DRing K) (lg : Bool) (A B : K) : K :=
  Di S lg 0 A * Di S lg 1 B - Di S lg 1 A * Di S lg 0 B

theorem bracket_is (a b : E) (i j : Nat) :
    denG S d lg (op2 .bracket a b) i j = brk S lg (denG S d lg a 0 0) (denG S d lg b 0 0) := by
  simp only [denG, brk]

/-- a derivation of the value ring: what `[a, ·]`, `[·, b]` and the normal derivative are -/
structure Deriv (δ : K → K) : Prop where
  add : ∀ x y, δ (x + y) = δ x + δ y
  mul : ∀ x y, δ (x * y) = x * δ y + δ x * y

omit [Algebra ℚ K] in
theorem Deriv.zero {δ : K → K} (hδ : Deriv δ) : δ 0 = 0 := by
  have := hδ.add 0 0
  rw [add_zero] at this
  linear_combination -this

omit [Algebra ℚ K] in
theorem Deriv.one {δ : K → K} (hδ : Deriv δ) : δ 1 = 0 := by
  have := hδ.mul 1 1
  rw [mul_one] at this
  linear_combination -this

theorem brk_right_deriv (A : K) : Deriv (fun B => brk S lg A B) where
  add := by intro x y; simp only [brk, Di_add]; ring
  mul := by intro x y; simp only [brk, Di_mul]; ring

theorem brk_left_deriv (B : K) : Deriv (fun A => brk S lg A B) where
  add := by intro x y; simp only [brk, Di_add]; ring
  mul := by intro x y; simp only [brk, Di_mul]; ring

theorem brk_const_left (A B : K) (h : ∀ k, Di S lg k A = 0) :
    brk S lg A B = 0 := by
  simp only [brk, h]; ring

theorem brk_const_right (A B : K) (h : ∀ k, Di S lg k B = 0) :
    brk S lg A B = 0 := by
  simp only [brk, h]; ring

/-- the bracket vanishes where the constructor takes its short-cuts: on a number, and on `[x, x]` -/
theorem brk_short (x y : E) (hx : NonDegG S d lg x)
    (hy : NonDegG S d lg y) (h : (Calc.isNumber x || Calc.isNumber y || x == y) = true) :
    brk S lg (denG S d lg x 0 0) (denG S d lg y 0 0) = 0 := by
  simp only [Bool.or_eq_true] at h
  rcases h with (h | h) | h
  · exact brk_const_left S lg _ _ (fun k => number_const S d lg x h hx k 0 0)
  · exact brk_const_right S lg _ _ (fun k => number_const S d lg y h hy k 0 0)
  · rw [E.eq_of_beq h]; simp only [brk]; ring

theorem Deriv.sum {δ : K → K} (hδ : Deriv δ) (S : DRing K) (d : Nat) (lg : Bool) (bs : List E) :
    δ (denGSum S d lg bs 0 0) = (bs.map (fun b => δ (denG S d lg b 0 0))).sum :=
  denGSum_additive S d lg (fun f => δ (f 0 0)) hδ.zero (fun f g => hδ.add (f 0 0) (g 0 0)) bs

/-- the Leibniz expansion Σ_i (Π_{j<i} f_j) δf_i (Π_{j>i} f_j) of a product of index-free factors -/
theorem leibniz_sound {δ : K → K} (hδ : Deriv δ) (S : DRing K) (d : Nat) (lg : Bool) (i j : Nat)
    (ps : List (E × E))
    (hp : ∀ p ∈ ps, (∀ a b, denG S d lg p.1 a b = denG S d lg p.1 0 0)
      ∧ denG S d lg p.2 i j = δ (denG S d lg p.1 0 0))
    (pre : List E) :
    denGSum S d lg (leibnizTerms pre ps) i j
      = denGProd S d lg pre i j * δ (denGProd S d lg (ps.map (·.1)) 0 0) := by
  induction ps generalizing pre with
  | nil => simp [leibnizTerms, denGSum, denGProd, hδ.one]
  | cons p rest ih =>
    obtain ⟨f, r⟩ := p
    have hfr := hp (f, r) (by simp)
    have hrest : ∀ p ∈ rest, (∀ a b, denG S d lg p.1 a b = denG S d lg p.1 0 0)
        ∧ denG S d lg p.2 i j = δ (denG S d lg p.1 0 0) := fun p hp' => hp p (by simp [hp'])
    have hfree : denGProd S d lg (rest.map (·.1)) i j = denGProd S d lg (rest.map (·.1)) 0 0 := by
      apply denGProd_congr
      intro x hx
      obtain ⟨p', hp', rfl⟩ := List.mem_map.mp hx
      exact (hrest p' hp').1 i j
    simp only [leibnizTerms, denGSum, List.map, denGProd]
    rw [ih hrest (pre ++ [f])]
    simp only [denG, denGProd_append, denGProd, mul_one]
    rw [hfr.2, hfree, hfr.1 i j, hδ.mul]
    ring

/-- `Mul` branch of both recursions, given the bracket of each factor -/
def brMul (el : E → E) (bs : List E) : E :=
  mul [Calc.mulOf (bs.filter isCoef),
    add (leibnizTerms [] ((bs.filter (fun x => !isCoef x)).map (fun b => (b, el b))))]

theorem brMul_sound {δ : K → K} (hδ : Deriv δ)
    (hconst : ∀ x, (∀ k, Di S lg k x = 0) → δ x = 0) (i j : Nat) (el : E → E) (bs : List E)
    (hs : ∀ b ∈ bs, Scal d b = true)
    (ih : ∀ b ∈ bs, denG S d lg (el b) i j = δ (denG S d lg b 0 0)) :
    denG S d lg (brMul el bs) i j = δ (denG S d lg (mul bs) 0 0) := by
  unfold brMul
  rw [denG_mul2, denG_mulOf]
  simp only [denG]
  have hc : δ (denGProd S d lg (bs.filter isCoef) 0 0) = 0 :=
    hconst _ (fun k => denGProd_coefs_const S d lg _ (fun x hx => (List.mem_filter.mp hx).2) k)
  rw [leibniz_sound hδ S d lg i j _ (by
    intro p hp
    obtain ⟨b, hb, rfl⟩ := List.mem_map.mp hp
    have hb' := (List.mem_filter.mp hb).1
    exact ⟨Scal_free S d lg b (hs b hb'), ih b hb'⟩) [],
    map_fst_pair, denGProd_filter S d lg isCoef bs 0 0, hδ.mul, hc,
    denGProd_scal_free S d lg _ (fun x hx => hs x (List.mem_filter.mp hx).1) i j]
  simp only [denGProd]
  ring

/-- a recursion `br` over sums and products (element-wise `el`, elsewhere `leaf`) computes the
    derivation `δ` of scalar expressions -/
theorem brRec_sound {δ : K → K} (hδ : Deriv δ)
    (hconst : ∀ x, (∀ k, Di S lg k x = 0) → δ x = 0) (br el leaf : E → E)
    (hadd : ∀ bs, br (add bs) = add (bs.map el))
    (hmul : ∀ bs, br (mul bs) = brMul el bs)
    (hother : ∀ b, (∀ bs, b ≠ add bs) → (∀ bs, b ≠ mul bs) → br b = leaf b)
    (hel : ∀ b, NonDegG S d lg b →
      (∀ i j, denG S d lg (br b) i j = δ (denG S d lg b 0 0)) →
      ∀ i j, denG S d lg (el b) i j = δ (denG S d lg b 0 0))
    (hleaf : ∀ b, NonDegG S d lg b → ∀ i j, denG S d lg (leaf b) i j = δ (denG S d lg b 0 0))
    (b : E) (hs : Scal d b = true) (hnd : NonDegG S d lg b) :
    ∀ i j, denG S d lg (br b) i j = δ (denG S d lg b 0 0) := by
  induction b using E.induction with
  | add bs ih =>
    intro i j
    have hs' := (Scal_add d bs).mp hs
    have hnd' := (NonDegG_add S d lg bs).mp hnd
    rw [hadd]
    simp only [denG]
    rw [denGSum_eq, List.map_map, hδ.sum S d lg bs]
    congr 1
    apply List.map_congr_left
    intro b hb
    exact hel b (hnd' b hb) (ih b hb (hs' b hb) (hnd' b hb)) i j
  | mul bs ih =>
    intro i j
    have hs' := (Scal_mul d bs).mp hs
    have hnd' := (NonDegG_mul S d lg bs).mp hnd
    rw [hmul]
    exact brMul_sound S d lg hδ hconst i j el bs hs'
      (fun b hb => hel b (hnd' b hb) (ih b hb (hs' b hb) (hnd' b hb)) i j)
  | _ =>
    rw [hother _ (fun bs h => by cases h) (fun bs h => by cases h)]
    exact hleaf _ hnd

theorem brRightList_eq (a1 : E) (bs : List E) :
    brRightList a1 bs = bs.map (fun b =>
      if Calc.isNumber a1 || Calc.isNumber b || a1 == b then zero else brRight a1 b) :=
  eq_map_of_eqns _ _ rfl (fun _ _ => rfl) bs

theorem brLeftList_eq (a2 : E) (as : List E) :
    brLeftList a2 as = as.map (fun a =>
      if Calc.isNumber a || Calc.isNumber a2 || a == a2 then zero else brLeft a2 a) :=
  eq_map_of_eqns _ _ rfl (fun _ _ => rfl) as

theorem brRight_sound (a1 : E)
    (hnd1 : NonDegG S d lg a1) (b : E) (hs : Scal d b = true) (hnd : NonDegG S d lg b) :
    ∀ i j, denG S d lg (brRight a1 b) i j
      = brk S lg (denG S d lg a1 0 0) (denG S d lg b 0 0) := by
  refine brRec_sound S d lg (brk_right_deriv S lg (denG S d lg a1 0 0))
    (fun x hx => brk_const_right S lg _ x hx) (brRight a1)
    (fun b => if Calc.isNumber a1 || Calc.isNumber b || a1 == b then zero else brRight a1 b)
    (fun b => if isCoef b then zero
      else if Calc.isNumber a1 || Calc.isNumber b then zero
      else if a1 == b then zero else op2 .bracket a1 b)
    (fun bs => by rw [brRight, brRightList_eq])
    (fun bs => by rw [brRight, brRightList_eq, zip_map_filter (fun x => !isCoef x)]; rfl)
    ?_ ?_ ?_ b hs hnd
  · intro b hna hnm
    cases b with
    | add bs => exact absurd rfl (hna bs)
    | mul bs => exact absurd rfl (hnm bs)
    | _ => rfl
  · intro b hndb ih i j
    split
    · rename_i hc
      rw [denG_zero, brk_short S d lg a1 b hnd1 hndb hc]
    · exact ih i j
  · intro b hndb i j
    split
    · rename_i hc
      rw [denG_zero, brk_const_right S lg _ _ (fun k => isCoef_const S d lg b hc k 0 0)]
    split
    · rename_i hn
      rw [denG_zero, brk_short S d lg a1 b hnd1 hndb (by rw [hn]; rfl)]
    split
    · rename_i he
      rw [denG_zero, brk_short S d lg a1 b hnd1 hndb (by rw [he]; exact Bool.or_true _)]
    · exact bracket_is S d lg a1 b i j

theorem brLeft_sound (a2 : E)
    (hs2 : Scal d a2 = true) (hnd2 : NonDegG S d lg a2)
    (a : E) (hs : Scal d a = true) (hnd : NonDegG S d lg a) :
    ∀ i j, denG S d lg (brLeft a2 a) i j
      = brk S lg (denG S d lg a 0 0) (denG S d lg a2 0 0) := by
  refine brRec_sound S d lg (brk_left_deriv S lg (denG S d lg a2 0 0))
    (fun x hx => brk_const_left S lg x _ hx) (brLeft a2)
    (fun a => if Calc.isNumber a || Calc.isNumber a2 || a == a2 then zero else brLeft a2 a)
    (fun a => if isCoef a then zero else brRight a a2)
    (fun as => by rw [brLeft, brLeftList_eq])
    (fun as => by rw [brLeft, brLeftList_eq, zip_map_filter (fun x => !isCoef x)]; rfl)
    ?_ ?_ ?_ a hs hnd
  · intro a hna hnm
    cases a with
    | add bs => exact absurd rfl (hna bs)
    | mul bs => exact absurd rfl (hnm bs)
    | _ => rfl
  · intro a hnda ih i j
    split
    · rename_i hc
      rw [denG_zero, brk_short S d lg a a2 hnda hnd2 hc]
    · exact ih i j
  · intro a hnda i j
    split
    · rename_i hc
      rw [denG_zero, brk_const_left S lg _ _ (fun k => isCoef_const S d lg a hc k 0 0)]
    · exact brRight_sound S d lg a hnda a2 hs2 hnd2 i j

/-! ### shape invariants of the results of Grad.eval / Curl.eval (arguments of Dot) -/

def WF (d : Nat) (x : E) : Prop := rank d x ≤ 1 ∧ (isComm d x = true → Scal d x = true)

/-- invariant of the vector-valued results: usable as an argument of Dot -/
structure GI (d : Nat) (r : E) : Prop where
  rk : rank d r ≤ 1
  fac : ∀ x ∈ factors r, isComm d x = true → Scal d x = true
  cs : isComm d r = true → Scal d r = true
  terms : ∀ ts, r = add ts → ∀ t ∈ ts, rank d t ≤ 1 ∧ ∀ x ∈ factors t, isComm d x = true → Scal d x = true

theorem GI.wf {d : Nat} {r : E} (h : GI d r) : WF d r := ⟨h.rk, h.cs⟩

theorem WF_scal (x : E) (h : Scal d x = true) : WF d x :=
  ⟨by rw [Scal_rank d x h]; exact Nat.zero_le _, fun _ => h⟩

theorem allComm_iff (as : List E) : allComm d as = true ↔ ∀ a ∈ as, isComm d a = true := by
  induction as with
  | nil => simp [allComm]
  | cons a as ih => simp [allComm, ih]

theorem rankMax_le (l : List E) (n : Nat) (h : ∀ x ∈ l, rank d x ≤ n) : rankMax d l ≤ n := by
  induction l with
  | nil => simp [rankMax]
  | cons a l ih =>
    simp only [rankMax]
    exact Nat.max_le.mpr ⟨h a (by simp), ih (fun x hx => h x (by simp [hx]))⟩

theorem GI_atom (r : E) (hw : WF d r) (hna : ∀ ts, r ≠ add ts) (hnm : ∀ ts, r ≠ mul ts) :
    GI d r where
  rk := hw.1
  fac := by
    intro x hx
    have : factors r = [r] := by
      cases r with
      | mul ts => exact absurd rfl (hnm ts)
      | _ => rfl
    rw [this, List.mem_singleton] at hx
    subst hx; exact hw.2
  cs := hw.2
  terms := fun ts h => absurd h (hna ts)

theorem GI_zero : GI d E.zero :=
  GI_atom d _ (WF_scal d _ rfl) (fun _ h => by cases h) (fun _ h => by cases h)

theorem GI_mul (l : List E) (h : ∀ x ∈ l, WF d x) : GI d (mul l) where
  rk := by simp only [rank]; exact rankMax_le d l 1 (fun x hx => (h x hx).1)
  fac := fun x hx => (h x hx).2
  cs := by
    intro hc
    rw [isComm, allComm_iff] at hc
    exact (Scal_mul d l).mpr (fun x hx => (h x hx).2 (hc x hx))
  terms := fun ts h => by cases h

theorem GI_add (l : List E) (h : ∀ t ∈ l, GI d t) : GI d (add l) := by
  have hcs : isComm d (add l) = true → Scal d (add l) = true := by
    intro hc
    rw [isComm, allComm_iff] at hc
    exact (Scal_add d l).mpr (fun x hx => (h x hx).cs (hc x hx))
  exact {
    rk := by
      cases l with
      | nil => exact Nat.zero_le _
      | cons a l => simp only [rank, rankHead]; exact (h a (by simp)).rk
    fac := by intro x hx; simp only [factors, List.mem_singleton] at hx; subst hx; exact hcs
    cs := hcs
    terms := by
      intro ts hts t ht
      injection hts with hts; subst hts
      exact ⟨(h t ht).rk, (h t ht).fac⟩ }

theorem GI_BilOK (r : E) (h : GI d r) : BilOK d r = true ∧ isMat d r = false := by
  refine ⟨?_, isMat_of_rank_le d r h.rk⟩
  by_cases hadd : ∃ ts, r = add ts
  · obtain ⟨ts, rfl⟩ := hadd
    refine (BilOK_add d ts).mpr (fun t ht => ?_)
    have := h.terms ts rfl t ht
    exact ⟨(facOK_iff d t).mpr this.2, by rw [isMat_of_rank_le d t this.1, isMat_of_rank_le d _ h.rk]⟩
  · rw [BilOK_nonadd d r (fun as has => hadd ⟨as, has⟩)]
    exact (facOK_iff d r).mpr h.fac

theorem numOrNode_GI (o : Op1) (e : E) (hn : GI d (op1 o e)) (b : Bool) (r : E)
    (h : (if b = true then Except.ok zero else Except.ok (op1 o e)) = (Except.ok r : Except Err E)) :
    GI d r := by
  split at h
  · injection h with h; subst h; exact GI_zero d
  · injection h with h; subst h; exact hn

theorem addBranch_GI (o : Op1) (ev : E → Except Err E) (as : List E)
    (hn1 : GI d (op1 o (add as)))
    (hn2 : GI d (op1 o (addOf (as.filter (fun x => !hasF x)))))
    (ih : ∀ a ∈ as, ∀ r, ev a = .ok r → GI d r)
    (r : E) (h : addBranch o ev as = .ok r) : GI d r := by
  unfold addBranch at h
  split at h
  · exact numOrNode_GI d o _ hn1 _ r h
  · obtain ⟨ra, hra, h⟩ := bind_ok h
    injection h with h; subst h
    apply GI_add
    intro t ht
    rcases List.mem_append.mp ht with ht | ht
    · obtain ⟨a, ha, hat⟩ := mapM_mem ev _ ra hra t ht
      exact ih a (List.mem_filter.mp ha).1 t hat
    · rw [List.mem_singleton] at ht
      subst ht
      split
      · exact GI_zero d
      · exact hn2

theorem leafBranch_GI (o : Op1) (e : E) (hn : GI d (op1 o e))
    (r : E) (h : leafBranch o e = .ok r) : GI d r := by
  unfold leafBranch at h
  split at h
  · exact numOrNode_GI d o e hn _ r h
  · rw [atomNode_ok o e r h]; exact hn

theorem mulLin_GI (o : Op1) (as : List E) (hn : ∀ x, GI d (op1 o x))
    (r : E) (h : mulLin o as = .ok r) : GI d r := by
  unfold mulLin at h
  split at h
  · exact numOrNode_GI d o _ (hn _) _ r h
  · injection h with h; subst h
    exact GI_mul d _ (forall_mem2
      (WF_scal d _ (Scal_mulOf d _ (fun a ha => isNumber_Scal d a (List.mem_filter.mp ha).2)))
      (hn _).wf)

theorem GI_grad (x : E) (h : Scal d x = true) : GI d (op1 .grad x) := by
  refine GI_atom d _ ⟨?_, fun hc => ?_⟩ (fun _ h => by cases h) (fun _ h => by cases h)
  · simp only [rank, Scal_rank d x h]; omega
  · exact Bool.noConfusion hc

theorem GI_curl (x : E) : GI d (op1 .curl x) := by
  refine GI_atom d _ ⟨?_, fun hc => ?_⟩ (fun _ h => by cases h) (fun _ h => by cases h)
  · simp only [rank]; split <;> omega
  · simp only [isComm, Bool.and_eq_true, beq_iff_eq] at hc
    simp [Scal, hc.1]

theorem curlEval_GI (e : E) (r : E) (h : curlEval d e = .ok r) : GI d r := by
  induction e using E.induction generalizing r with
  | add as ih =>
    rw [curlEval_add] at h
    exact addBranch_GI d .curl (curlEval d) as (GI_curl d _) (GI_curl d _) ih r h
  | mul as _ =>
    rw [curlEval_mul] at h
    exact mulLin_GI d .curl as (GI_curl d) r h
  | op1 o a _ =>
    cases o with
    | grad =>
      simp only [curlEval] at h
      split at h
      · exact numOrNode_GI d .curl _ (GI_curl d _) _ r h
      · injection h with h; subst h; exact GI_zero d
    | _ => exact leafBranch_GI d .curl _ (GI_curl d _) r (by simpa only [curlEval, leafBranch] using h)
  | _ => exact leafBranch_GI d .curl _ (GI_curl d _) r (by simpa only [curlEval, leafBranch] using h)

/-! ### Laplace -/

mutual
/-- the product rule of `Laplace.eval` (two non-numeric factors, both flagged commutative) is
    only applied to genuine scalars -/
def LapOK (d : Nat) : E → Bool
  | add as => LapOKList d as
  | mul as =>
      (match nonNum as with
       | [f, g] => !(isComm d f && isComm d g) || (Scal d f && Scal d g)
       | _ => true)
  | _ => true
def LapOKList (d : Nat) : List E → Bool
  | [] => true
  | a :: as => LapOK d a && LapOKList d as
end

theorem LapOK_add (as : List E) : LapOK d (add as) = true ↔ ∀ a ∈ as, LapOK d a = true := by
  rw [LapOK]
  induction as with
  | nil => simp [LapOKList]
  | cons a as ih => simp [LapOKList, ih]

theorem Scal_LapOK (e : E) (h : Scal d e = true) : LapOK d e = true := by
  induction e using E.induction with
  | add as ih => exact (LapOK_add d as).mpr (fun a ha => ih a ha ((Scal_add d as).mp h a ha))
  | mul as _ =>
    have hs := (Scal_mul d as).mp h
    simp only [LapOK]
    split
    · rename_i f g hfg
      have hm := mem_of_filter_eq (show as.filter _ = [f, g] from hfg)
      simp [hs f (hm f (by simp)), hs g (hm g (by simp))]
    · rfl
  | _ => rfl

/-! ### Div -/

/-- div(f F) = f div F + F · grad f, for either order of the two factors -/
theorem div_prod (F f X : E) (hX : X = mul [F, f] ∨ X = mul [f, F])
    (hF : rank d F = 1) (hf : Scal d f = true) (i j : Nat) :
    denG S d lg (op1 .div X) i j
      = denG S d lg f 0 0 * denG S d lg (op1 .div F) i j
        + sumN d (fun k => denG S d lg F k 0 * Di S lg k (denG S d lg f 0 0)) := by
  have hfr := Scal_rank d f hf
  have hfree := Scal_free S d lg f hf
  have hr : rank d X = 1 := by
    rcases hX with rfl | rfl <;> simp [rank, rankMax, hF, hfr]
  have hval : ∀ k, denG S d lg X k 0 = denG S d lg f 0 0 * denG S d lg F k 0 := by
    intro k
    rcases hX with rfl | rfl <;> simp only [denG, denGProd, mul_one] <;> rw [hfree k 0] <;> ring
  simp only [denG, hr, hF, if_true]
  simp only [hval]
  exact div_mul_value S d lg _ _

/-- div(a × b) = b · curl a − a · curl b (3D) -/
theorem div_cross (S : DRing K) (lg : Bool) (a b : E) (i j : Nat) :
    denG S 3 lg (op1 .div (op2 .cross a b)) i j
      = sumN 3 (fun k => denG S 3 lg b k 0 * denG S 3 lg (op1 .curl a) k 0)
        - sumN 3 (fun k => denG S 3 lg a k 0 * denG S 3 lg (op1 .curl b) k 0) := by
  have hr : rank 3 (op2 .cross a b) = 1 := by simp [rank]
  simp only [denG, hr, if_true, sumN, Di_sub, Di_mul]
  ring

theorem isVecLike_spec (a : E) (h : isVecLike a = true) :
    BilOK d a = true ∧ rank d a = 1 := by
  cases a with
  | vf n k => exact ⟨rfl, rfl⟩
  | tup as => exact ⟨rfl, rfl⟩
  | _ => exact Bool.noConfusion h

theorem rank_mul_nonNum (as : List E) : rank d (mul as) = rankMax d (nonNum as) := by
  simp only [rank]
  exact rankMax_filter d Calc.isNumber as (fun x _ hx => Scal_rank d x (isNumber_Scal d x hx))

theorem div_pullNum (as : List E) (hnd : NonDegG S d lg (mul as)) :
    ∀ i j, denG S d lg (mul [Calc.mulOf (numCoeffs as), op1 .div (Calc.mulOf (nonNum as))]) i j
      = denG S d lg (op1 .div (mul as)) i j :=
  pullNum_sound S d lg .div _ (div_lin S d lg (rank d (mul as))) as (div_is S d lg _ _ rfl)
    (div_is S d lg _ _ (by rw [rank_mulOf, rank_mul_nonNum])) hnd

mutual
/-- well-formedness of the argument of `Div.eval`: the terms of a sum have the same tensor rank;
    where the product rule `div(f F)` fires the other factor is a genuine scalar; `div(a × b)`
    and `div(curl a)` are rewritten in 3D only, `a` and `b` being admissible arguments of Dot
    of rank at most 1 -/
def DivOK (d : Nat) : E → Bool
  | add as => DivOKList d as && as.all (fun t => rank d t == rank d (add as))
  | mul as =>
      (match nonNum as with
       | [a, b] => if isVecLike a then Scal d b else if isVecLike b then Scal d a else true
       | _ => true)
  | op2 .cross a b =>
      !(hasF a || hasF b)
        || (d == 3 && BilOK d a && BilOK d b && decide (rank d a ≤ 1) && decide (rank d b ≤ 1))
  | op1 .curl a => !hasF a || d == 3
  | _ => true
def DivOKList (d : Nat) : List E → Bool
  | [] => true
  | a :: as => DivOK d a && DivOKList d as
end

theorem DivOKList_iff (as : List E) : DivOKList d as = as.all (DivOK d) := by
  induction as with
  | nil => simp [DivOKList]
  | cons a as ih => simp [DivOKList, ih]

mutual
/-- `NonDegG` of the expression, of the terms of its sums, and of the two arguments of a Cross
    product that gets rewritten (`NonDegG` itself does not look inside operator nodes) -/
def NonDegD (S : DRing K) (d : Nat) (lg : Bool) : E → Prop
  | add as => NonDegG S d lg (add as) ∧ NonDegDList S d lg as
  | op2 .cross a b => NonDegG S d lg a ∧ NonDegG S d lg b
  | e => NonDegG S d lg e
def NonDegDList (S : DRing K) (d : Nat) (lg : Bool) : List E → Prop
  | [] => True
  | a :: as => NonDegD S d lg a ∧ NonDegDList S d lg as
end

theorem NonDegDList_mem (as : List E) (h : NonDegDList S d lg as)
    (a : E) (ha : a ∈ as) : NonDegD S d lg a := by
  induction as with
  | nil => cases ha
  | cons x xs ih =>
    simp only [NonDegDList] at h
    rcases List.mem_cons.mp ha with rfl | ha
    · exact h.1
    · exact ih h.2 ha

theorem NonDegD_G (e : E) (h : NonDegD S d lg e) :
    NonDegG S d lg e := by
  cases e with
  | add as => exact h.1
  | op2 o a b => cases o <;> simp [NonDegG]
  | _ => exact h

end Sympde

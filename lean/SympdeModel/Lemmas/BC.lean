/-
  Specifications for C18 (Model/BC.lean): the independent description of the admitted left-hand
  sides (`Shape`) with the attributes prescribed for each, the per-face normalisation
  (`normalise`), and the frame facts about one operation on a heap of condition objects.
-/
import SympdeModel.Model.BC
namespace Sympde.BC
open Lhs

/-- The four admitted shapes of the statement: `u`, `u[i]`, `u.n`, `grad(u).n`. -/
inductive Shape where
  | value (f : Fn)
  | component (f : Fn) (i : Nat)
  | normalComp (f : Fn) (n : String)
  | normalDeriv (f : Fn) (n : String)
  deriving Repr, DecidableEq

/-- `lhs` is written in shape `s` (a `Dot` may be written with its arguments in either order) -/
def Shape.lhsIs : Shape → Lhs → Prop
  | .value f, lhs => lhs = fn f
  | .component f i, lhs => f.isVector = true ∧ lhs = idx f i
  | .normalComp f n, lhs =>
      f.isVector = true ∧ (lhs = dot (fn f) (normal n) ∨ lhs = dot (normal n) (fn f))
  | .normalDeriv f n, lhs => lhs = dot (grad (fn f)) (normal n) ∨ lhs = dot (normal n) (grad (fn f))

def Shape.order : Shape → Nat
  | .normalDeriv _ _ => 1
  | _ => 0

def Shape.var : Shape → Fn
  | .value f => f
  | .component f _ => f
  | .normalComp f _ => f
  | .normalDeriv f _ => f

/-- the constrained components (`ic0` = the `index_component` argument of the constructor) -/
def Shape.ic (ic0 : Option (List Nat)) : Shape → Option (List Nat)
  | .value f => if f.isVector then some (List.range f.ldim) else ic0
  | .component _ i => some [i]
  | .normalComp _ _ => ic0
  | .normalDeriv _ _ => ic0

def Shape.normal : Shape → Bool
  | .value _ => false
  | .component _ _ => false
  | .normalComp _ _ => true
  | .normalDeriv f _ => f.isVector

/-- the condition object the statement prescribes for shape `s` -/
def Shape.cond (s : Shape) (lhs : Lhs) (rhs : String) (b : Bnd) (p : Option Nat)
    (ic0 : Option (List Nat)) : Cond :=
  { lhs, rhs, boundary := b, order := s.order, var := s.var, normalComponent := s.normal,
    indexComponent := s.ic ic0, position := p }

theorem Shape.ic_idem (s : Shape) (ic0 : Option (List Nat)) : s.ic (s.ic ic0) = s.ic ic0 := by
  cases s <;> simp [Shape.ic]
  intro h1 h2; simp [h1] at h2

/-! ### `eqv` against the candidate expressions -/

theorem eqv_fn (lhs : Lhs) (f : Fn) : eqv lhs (fn f) = true ↔ lhs = fn f := by
  cases lhs <;> simp [eqv]

theorem eqv_idx (lhs : Lhs) (f : Fn) (i : Nat) : eqv lhs (idx f i) = true ↔ lhs = idx f i := by
  cases lhs <;> simp [eqv]

theorem eqv_dot (lhs a b : Lhs) : eqv lhs (dot a b) = true ↔ lhs = dot a b ∨ lhs = dot b a := by
  cases lhs <;> simp [eqv]

/-! ### the function singled out by the classification -/

theorem theFunction_shape (lhs u : Lhs) (h : theFunction lhs = .ok u) :
    (∃ f, u = fn f) ∨ (∃ f i, u = idx f i) := by
  unfold theFunction at h
  simp only at h
  split at h
  · rename_i u' heq
    have hu : u' = u := by injection h
    subst hu
    have hm : u' ∈ (scalarAtoms lhs).map fn ++
        (if (indexedAtoms lhs).isEmpty then (vectorAtoms lhs).map fn
         else (indexedAtoms lhs).map (fun p => idx p.1 p.2)) := by rw [heq]; simp
    rcases List.mem_append.mp hm with hm | hm
    · obtain ⟨f, _, rfl⟩ := List.mem_map.mp hm
      exact Or.inl ⟨f, rfl⟩
    · split at hm
      · obtain ⟨f, _, rfl⟩ := List.mem_map.mp hm
        exact Or.inl ⟨f, rfl⟩
      · obtain ⟨p, _, rfl⟩ := List.mem_map.mp hm
        exact Or.inr ⟨p.1, p.2, rfl⟩
  · cases h

/-- the function singled out in a left-hand side written in shape `s` -/
theorem Shape.theFunction_eq (s : Shape) (lhs : Lhs) (h : s.lhsIs lhs) :
    theFunction lhs = .ok (match s with | .component f i => idx f i | s => fn s.var) := by
  cases s with
  | value f =>
    cases h
    cases f <;> rfl
  | component f i =>
    obtain ⟨hv, rfl⟩ := h
    cases f <;> cases hv
    rfl
  | normalComp f n =>
    obtain ⟨-, rfl | rfl⟩ := h <;> cases f <;> rfl
  | normalDeriv f n =>
    rcases h with rfl | rfl <;> cases f <;> rfl

/-! ### position lookup -/

theorem indexOf_spec (v : Fn) (ts : List Fn) (p : Nat) (h : indexOf v ts = some p) :
    ∃ t, ts[p]? = some t ∧ t.same v = true ∧ ∀ q, q < p → ∀ t', ts[q]? = some t' → t'.same v = false := by
  induction ts generalizing p with
  | nil => simp [indexOf] at h
  | cons t ts ih =>
    unfold indexOf at h
    split at h
    · rename_i hs
      injection h with h
      subst h
      exact ⟨t, by simp, hs, by intro q hq; omega⟩
    · rename_i hs
      cases hi : indexOf v ts with
      | none => simp [hi] at h
      | some p' =>
        simp [hi] at h
        subst h
        obtain ⟨t0, h0, h1, h2⟩ := ih p' hi
        refine ⟨t0, by simpa using h0, h1, ?_⟩
        intro q hq t' ht'
        cases q with
        | zero => simp at ht'; subst ht'; simpa using hs
        | succ q => exact h2 q (by omega) t' (by simpa using ht')

theorem indexOf_none (v : Fn) (ts : List Fn) (h : indexOf v ts = none) :
    ∀ t ∈ ts, t.same v = false := by
  induction ts with
  | nil => simp
  | cons t ts ih =>
    unfold indexOf at h
    split at h
    · cases h
    · rename_i hs
      cases hi : indexOf v ts with
      | some p => simp [hi] at h
      | none =>
        intro t' ht'
        rcases List.mem_cons.mp ht' with rfl | ht'
        · simpa using hs
        · exact ih hi t' ht'

/-! ### the specification of the normalisation -/

def facesOf : Bnd → List String
  | .face j => [j]
  | .union js => js

/-- what the statement prescribes for one declared condition: one copy per face, everything
    else equal, the position being the index of the unknown among the trial functions -/
def normalise (trials : List Fn) (c : Cond) : List Cond :=
  (facesOf c.boundary).map fun j =>
    { c with boundary := .face j, position := indexOf c.var trials }

/-- `c` is an EssentialBC object: it was produced by the constructor -/
def IsCond (c : Cond) : Prop :=
  ∃ p0 ic0, mkCond c.lhs c.rhs c.boundary p0 ic0 = .ok c

/-! ### operation sequences (heap of condition objects) -/

def World.WF (w : World) : Prop := ∀ e ∈ w.eqs, ∀ a ∈ e.2, a < w.heap.length

theorem getAll_congr (h h' : List Cond) (as : List Nat) (hh : ∀ a ∈ as, h'[a]? = h[a]?) :
    getAll h' as = getAll h as := by
  induction as with
  | nil => rfl
  | cons a as ih =>
    simp only [getAll]
    rw [hh a (by simp), ih (fun b hb => hh b (by simp [hb]))]

theorem setPos_length (h : List Cond) (a p : Nat) : (setPos h a p).length = h.length := by
  induction h generalizing a with
  | nil => rfl
  | cons c cs ih => cases a <;> simp [setPos, ih]

theorem setPos_get_ne (h : List Cond) (a b p : Nat) (hne : b ≠ a) : (setPos h a p)[b]? = h[b]? := by
  induction h generalizing a b with
  | nil => rfl
  | cons c cs ih =>
    cases a with
    | zero =>
      cases b with
      | zero => exact absurd rfl hne
      | succ b => simp [setPos]
    | succ a =>
      cases b with
      | zero => simp [setPos]
      | succ b => simp [setPos, ih a b (by omega)]

theorem freshAddrs_mem (n k a : Nat) (h : a ∈ freshAddrs n k) : n ≤ a ∧ a < n + k := by
  induction k generalizing n with
  | zero => simp [freshAddrs] at h
  | succ k ih =>
    simp only [freshAddrs, List.mem_cons] at h
    rcases h with rfl | h
    · omega
    · have := ih (n + 1) h; omega

theorem getAll_fresh (h out : List Cond) : getAll (h ++ out) (freshAddrs h.length out.length) = some out := by
  induction out generalizing h with
  | nil => rfl
  | cons c cs ih =>
    simp only [List.length_cons, freshAddrs, getAll]
    have h1 : (h ++ c :: cs)[h.length]? = some c := by simp
    have h2 := ih (h ++ [c])
    simp only [List.length_append, List.length_cons, List.length_nil, List.append_assoc, List.cons_append,
      List.nil_append, Nat.zero_add] at h2
    rw [h1, h2]

theorem step_heap_prefix (w : World) (op : Op) (hop : ∀ a p, op ≠ .reposition a p) (a : Nat) (ha : a < w.heap.length) :
    (step w op).heap[a]? = w.heap[a]? := by
  cases op with
  | new c => simp [step, List.getElem?_append_left ha]
  | build trials addrs =>
    simp only [step]
    split
    · rfl
    · split
      · rfl
      · simp [List.getElem?_append_left ha]
  | reposition a p => exact absurd rfl (hop a p)

theorem step_eqs_prefix (w : World) (op : Op) (k : Nat) (hk : k < w.eqs.length) :
    (step w op).eqs[k]? = w.eqs[k]? ∧ w.eqs.length ≤ (step w op).eqs.length := by
  cases op with
  | new c => simp [step]
  | build trials addrs =>
    simp only [step]
    split
    · simp
    · split
      · simp
      · simp [List.getElem?_append_left hk]
  | reposition a p =>
    simp only [step]
    split <;> simp

theorem step_wf (w : World) (op : Op) (hw : w.WF) : (step w op).WF := by
  cases op with
  | new c =>
    intro e he a ha
    have := hw e he a ha
    simp [step]; omega
  | build trials addrs =>
    simp only [step]
    split
    · exact hw
    · split
      · exact hw
      · intro e he a ha
        simp only [List.mem_append, List.mem_singleton] at he
        simp only [List.length_append]
        rcases he with he | rfl
        · have := hw e he a ha; omega
        · have := freshAddrs_mem _ _ a ha; omega
  | reposition a p =>
    simp only [step]
    split
    · exact hw
    · intro e he b hb
      simp only [setPos_length]
      exact hw e he b hb

/-- one operation never changes what an equation built earlier reports -/
theorem step_frame (w : World) (op : Op) (hw : w.WF) (k : Nat) (hk : k < w.eqs.length) :
    readEq (step w op) k = readEq w k := by
  unfold readEq
  rw [(step_eqs_prefix w op k hk).1]
  have hke : w.eqs[k]? = some w.eqs[k] := List.getElem?_eq_getElem hk
  rw [hke]
  simp only
  apply getAll_congr
  intro a ha
  have hlt : a < w.heap.length := hw _ (List.getElem_mem hk) a ha
  cases op with
  | reposition a0 p =>
    simp only [step]
    split
    · rfl
    · rename_i hown
      apply setPos_get_ne
      intro e
      subst e
      apply hown
      simp only [World.owned, List.any_eq_true]
      exact ⟨_, List.getElem_mem hk, by simpa using ha⟩
  | new c => exact step_heap_prefix w _ (by intro a p h; cases h) a hlt
  | build t as => exact step_heap_prefix w _ (by intro a p h; cases h) a hlt

end Sympde.BC

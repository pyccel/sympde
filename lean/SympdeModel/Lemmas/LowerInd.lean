/-
  The structural induction over the dispatcher `Lower.lower`, once for every graded class of scalar
  forms (`Forms`): a well-typed expression is lowered to a value of its type over the class, with
  the classical components.  The forms `LS` (no powers or functions, any differential ring, totality)
  and the forms `LX` with a derivative budget (a ring with the table of elementary functions) give
  `lower_sound` and `lower_sound_ext` (Props/C01.lean) through `lower_ty_res` and `lower_tyk_sound`.
-/
import SympdeModel.Lemmas.LowerStep
import SympdeModel.Lemmas.LowerTy
namespace Sympde.Lower
open E PD Gen

variable {K : Type} [CommRing K] [Algebra ℚ K]

/-! ### the dispatcher, node by node -/

theorem lowerList_res {total : Prop} (d : Nat) (lg : Bool) (Q : E → E → Prop) (as : List E)
    (h : ∀ a ∈ as, Res total (Q a) (lower d lg a)) :
    Res total (List.Forall₂ Q as) (lowerList d lg as) := by
  induction as with
  | nil => exact Res.ok .nil
  | cons a as ih =>
    simp only [lowerList]
    exact (h a (by simp)).bind fun t ht => (ih fun x hx => h x (by simp [hx])).bind fun ts hts =>
      Res.ok (.cons ht hts)

theorem lower_add (d : Nat) (lg : Bool) (as : List E) :
    lower d lg (add as) = lowerList d lg as >>= foldV addV := by
  simp only [lower]

theorem lower_mul (d : Nat) (lg : Bool) (as : List E) :
    lower d lg (mul as) = lowerList d lg as >>= foldV mulV := by
  simp only [lower]

theorem lower_pow (d : Nat) (lg : Bool) (b e : E) :
    lower d lg (pow b e) = lower d lg b >>= fun b' => lower d lg e >>= fun e' =>
      if isMat b' || isMat e' then .error .other else .ok (pow b' e') := by
  simp only [lower]

theorem lower_fn (d : Nat) (lg : Bool) (f : String) (a : E) :
    lower d lg (fn f a) = lower d lg a >>= fun a' => .ok (fn f a') := by
  simp only [lower]

theorem ty1_class (d : Nat) (o : Op1) (τa τ : Ty) (h : ty1 d o τa = some τ) :
    ∃ cn, op1Class o = some cn := by
  cases o <;> first | exact ⟨_, rfl⟩ | (cases τa <;> exact nomatch h)

theorem lower_op1 (d : Nat) (lg : Bool) (o : Op1) (a : E) (cn : String) (h : op1Class o = some cn) :
    lower d lg (op1 o a) = lower d lg a >>= fun a' =>
      applyLeaf d ((if lg then "Logical" else "") ++ cn ++ "_" ++ toString d ++ "d") [a'] := by
  cases o <;> first | (cases h; simp only [lower, op1Class]) | exact nomatch h

theorem lower_op2 (d : Nat) (lg : Bool) (o : Op2) (a b : E) :
    lower d lg (op2 o a b) = lower d lg a >>= fun a' => lower d lg b >>= fun b' =>
      applyLeaf d (op2Name lg o d) [a', b'] := by
  cases o <;> simp only [lower, op2Name]

theorem powCond_of_G (S : DRing K) (d : Nat) (lg : Bool) (k : Nat) (b x b' x' : E)
    (hb : ∀ i j, den S b' i j = denG S d lg b i j) (hx : intLit x' = intLit x)
    (h : powCondG S d lg k b x) : powCond S k b' x' := by
  have hinv : InvG S d lg b → Inv1 S b' := fun h i j => by rw [hb i j]; exact h i j
  unfold powCondG at h
  unfold powCond
  rw [hx]
  split at h
  · rename_i n hn
    rw [hn]
    exact h.imp id hinv
  · rename_i hn
    split
    · rename_i n hn'
      exact absurd hn' (hn n)
    · exact h.imp id hinv

theorem fnCond_of_G (S : DRing K) (d : Nat) (lg : Bool) (k : Nat) (f : String) (a a' : E)
    (ha : ∀ i j, den S a' i j = denG S d lg a i j) (h : fnCondG S d lg k f a) : fnCond S k f a' :=
  h.imp id fun ⟨h1, h2, h3⟩ => ⟨h1, fun hf i j => by rw [ha i j]; exact h2 hf i j,
    fun hf => (h3 hf).imp id fun h i j => by
      have := h i j
      simp only [denG] at this
      simp only [den, ha i j]
      exact this⟩

/-! ### the exponent of a lowered power -/

theorem addV_intLit (a b t : E) (h : addV a b = .ok t) : intLit t = none := by
  unfold addV at h
  repeat' split at h
  all_goals first | (cases h; rfl) | cases h

theorem mulV_intLit (a b t : E) (h : mulV a b = .ok t) : intLit t = none := by
  unfold mulV at h
  repeat' split at h
  all_goals first | (cases h; rfl) | cases h

theorem foldlM_last {α : Type} (f : α → α → Except Err α) (l : List α) (x acc t : α)
    (h : (x :: l).foldlM f acc = .ok t) : ∃ acc' z, f acc' z = .ok t := by
  induction l generalizing x acc with
  | nil =>
    simp only [List.foldlM_cons, List.foldlM_nil, bind, Except.bind, pure, Except.pure] at h
    cases h1 : f acc x with
    | error e => rw [h1] at h; cases h
    | ok v => rw [h1] at h; cases h; exact ⟨acc, x, h1⟩
  | cons y l ih =>
    rw [List.foldlM_cons] at h
    cases h1 : f acc x with
    | error e => rw [h1] at h; cases h
    | ok v => rw [h1] at h; exact ih y v h

theorem foldV_last (f : E → E → Except Err E) (ts : List E) (t : E) (hl : 2 ≤ ts.length)
    (h : foldV f ts = .ok t) : ∃ acc z, f acc z = .ok t := by
  match ts, hl with
  | a :: x :: l, _ => exact foldlM_last f l x a t h

theorem lowerList_length (d : Nat) (lg : Bool) (as ts : List E) (h : lowerList d lg as = .ok ts) :
    ts.length = as.length :=
  ((lowerList_res (total := False) d lg (fun _ _ => True) as fun _ _ =>
    ⟨False.elim, fun _ _ => trivial⟩).2 ts h).length_eq.symm

theorem lower_intLit (d : Nat) (lg : Bool) (e e' : E) (hs : headStable e = true)
    (h : lower d lg e = .ok e') : intLit e' = intLit e := by
  cases e with
  | num _ _ | cst _ | sym _ | sf _ _ | idx _ _ => cases h; rfl
  | pow b x =>
    rw [lower_pow] at h
    obtain ⟨b', _, h⟩ := bind_ok h
    obtain ⟨x', _, h⟩ := bind_ok h
    split at h <;> cases h
    rfl
  | fn f a =>
    rw [lower_fn] at h
    obtain ⟨a', _, h⟩ := bind_ok h
    cases h; rfl
  | add as =>
    rw [lower_add] at h
    obtain ⟨ts, hts, h⟩ := bind_ok h
    have hl := lowerList_length d lg as ts hts
    have h2 : 2 ≤ as.length := by
      match as, hs with
      | x :: y :: rest, _ => simp
    obtain ⟨acc, z, hz⟩ := foldV_last addV ts e' (hl ▸ h2) h
    exact addV_intLit acc z e' hz
  | mul as =>
    rw [lower_mul] at h
    obtain ⟨ts, hts, h⟩ := bind_ok h
    have hl := lowerList_length d lg as ts hts
    have h2 : 2 ≤ as.length := by
      match as, hs with
      | x :: y :: rest, _ => simp
    obtain ⟨acc, z, hz⟩ := foldV_last mulV ts e' (hl ▸ h2) h
    exact mulV_intLit acc z e' hz
  | _ => cases hs

theorem LX_isMat (t : E) (h : LX t = true) : isMat t = false := by
  cases t <;> first | rfl | cases h

theorem powSem_congr_lit (S : DRing K) (x y : K) (e e' : E) (h : intLit e' = intLit e) :
    powSem S x e' y = powSem S x e y := by
  unfold powSem; rw [h]

/-! ### sums and products: from the members to the fold -/

section
variable {S : DRing K} {d : Nat} {lg : Bool} {P : Nat → E → Prop} {ext total : Prop}

theorem Forms.scalar_den (W : Forms S d P ext total) (hd : 1 ≤ d) {k : Nat} {a t : E}
    (hty : tyk d a k = some .s) (g : Good S d lg (Shaped (P k) d) .s a t) (i j : Nat) :
    den S t i j = denG S d lg a i j := by
  have ht : P k t := g.1.elim (·.1) fun ⟨_, _, _, _, h⟩ => absurd rfl h
  rw [den_LX_free S t (W.lx ht) i j, g.2 0 0 (InR_zero_zero d hd _), tyk_indexFree S d lg a k hty i j]

theorem Forms.factor_den (W : Forms S d P ext total) (hd : 1 ≤ d) {k : Nat} {b tb : E} {τb τ : Ty}
    (hty : tyk d b k = some τb) (hg : Good S d lg (Shaped (P k) d) τb b tb) (hτ : τb = .s ∨ τb = τ)
    (i j : Nat) (hij : InR d τ i j) : den S tb i j = denG S d lg b i j := by
  rcases hτ with rfl | rfl
  · exact W.scalar_den hd hty hg i j
  · exact hg.2 i j hij

theorem sum_members (V : Ty → E → Prop) (τ : Ty) (as ts : List E)
    (F : List.Forall₂ (Good S d lg V τ) as ts) :
    (∀ x ∈ ts, V τ x) ∧ ∀ i j, InR d τ i j → denSum S ts i j = denGSum S d lg as i j := by
  induction F with
  | nil => exact ⟨fun x hx => (nomatch hx), fun _ _ _ => rfl⟩
  | cons hat _ ih =>
    refine ⟨List.forall_mem_cons.mpr ⟨hat.1, ih.1⟩, fun i j hij => ?_⟩
    simp only [denSum, denGSum, hat.2 i j hij, ih.2 i j hij]

theorem Forms.mul_members (W : Forms S d P ext total) (hd : 1 ≤ d) (k : Nat) (τ : Ty)
    (as ts : List E) (τs : List Ty)
    (hF : List.Forall₂ (fun x τx => tyk d x k = some τx) as τs)
    (F : List.Forall₂ (fun x t => ∀ τx, tyk d x k = some τx →
      Good S d lg (Shaped (P k) d) τx x t) as ts)
    (hτ : ∀ τx ∈ τs, τx = .s ∨ τx = τ) :
    List.Forall₂ (fun t τx => Shaped (P k) d τx t) ts τs ∧
      ∀ i j, InR d τ i j → denProd S ts i j = denGProd S d lg as i j := by
  induction hF generalizing ts with
  | nil => cases F; exact ⟨.nil, fun _ _ _ => rfl⟩
  | @cons x τx xs τs hx _ ih =>
    cases F with
    | cons hg F =>
      obtain ⟨hV, hden⟩ := ih _ F fun τy hy => hτ τy (by simp [hy])
      refine ⟨.cons (hg τx hx).1 hV, fun i j hij => ?_⟩
      simp only [denProd, denGProd, hden i j hij,
        W.factor_den hd hx (hg τx hx) (hτ τx (by simp)) i j hij]

theorem Forms.lower_add (W : Forms S d P ext total) (k : Nat) (τ : Ty) (as : List E) (hne : as ≠ [])
    (hm : ∀ a ∈ as, Res total (Good S d lg (Shaped (P k) d) τ a) (lower d lg a)) :
    Res total (Good S d lg (Shaped (P k) d) τ (add as)) (lower d lg (add as)) := by
  rw [Lower.lower_add]
  refine (lowerList_res d lg (Good S d lg (Shaped (P k) d) τ) as hm).bind fun ts F => ?_
  cases F with
  | nil => exact absurd rfl hne
  | cons ga Frest =>
    obtain ⟨hV, hden⟩ := sum_members _ τ _ _ Frest
    exact ((foldAdd_shaped S (W.scalarClass k) d τ _ _ ga.1 hV).imp_total fun _ => trivial).mono
      fun t ht => ⟨ht.1, fun i j hij => by rw [ht.2 i j hij, ga.2 i j hij, hden i j hij]; rfl⟩

/-! ### the structural induction -/

/-- the lowering does return if the coordinate operators do on the class (`total`); an expression with
    powers or elementary functions needs a class that contains them (`ext`) -/
theorem lower_forms (W : Forms S d P ext total) (hd : d = 1 ∨ d = 2 ∨ d = 3) (e : E) (k : Nat) (τ : Ty)
    (hty : tyk d e k = some τ) (hnd : NDG S d lg e k) (hx : ext ∨ ∃ τ', ty d e = some τ') :
    Res total (Good S d lg (Shaped (P k) d) τ e) (lower d lg e) := by
  have hd1 : 1 ≤ d := by omega
  induction e using E.induction generalizing k τ with
  | num _ _ | cst _ | sym _ | sf _ _ =>
    cases hty
    exact Res.ok ⟨Or.inl ⟨W.ls rfl, Or.inl rfl⟩, fun _ _ _ => rfl⟩
  | idx b i _ =>
    cases b <;> cases hty
    exact Res.ok ⟨Or.inl ⟨W.ls rfl, Or.inl rfl⟩, fun _ _ _ => rfl⟩
  | vf n kd =>
    cases hty
    refine Res.ok ⟨Or.inr ⟨_, rfl, by simp [cols], fun x hx => ?_, nofun⟩, fun i j hij => ?_⟩
    · obtain ⟨i, _, rfl⟩ := List.mem_map.mp hx
      exact W.ls rfl
    · obtain ⟨hi, rfl⟩ := hij
      rw [den_mat_nth, if_pos ⟨hi, Nat.one_pos⟩, Nat.mul_one, Nat.add_zero, nth_range_map d _ i hi]
      rfl
  | pow b x ihb ihx =>
    obtain ⟨rfl, hb, hx', hst⟩ := tyk_pow d b x k τ hty
    have hext : ext := hx.resolve_right fun ⟨_, h⟩ => nomatch h
    rw [lower_pow]
    refine (ihb k .s hb hnd.2.1 (Or.inl hext)).bind fun b' gb =>
      (ihx k .s hx' hnd.2.2 (Or.inl hext)).with_eq.bind fun x' ⟨hlx, gx⟩ => ?_
    have hPb : P k b' := gb.1.elim (·.1) fun ⟨_, _, _, _, h⟩ => absurd rfl h
    have hPx : P k x' := gx.1.elim (·.1) fun ⟨_, _, _, _, h⟩ => absurd rfl h
    have hdb := W.scalar_den hd1 hb gb
    have hdx := W.scalar_den hd1 hx' gx
    have hlit := lower_intLit d lg x x' hst hlx
    rw [LX_isMat b' (W.lx hPb), LX_isMat x' (W.lx hPx)]
    refine Res.ok ⟨Or.inl ⟨W.pow hext hPb hPx (powCond_of_G S d lg k b x b' x' hdb hlit hnd.1),
      Or.inl rfl⟩, fun i j _ => ?_⟩
    simp only [den, denG, hdb i j, hdx i j]
    exact powSem_congr_lit S _ _ x x' hlit
  | fn f a iha =>
    obtain ⟨rfl, ha, _⟩ := tyk_fn d f a k τ hty
    have hext : ext := hx.resolve_right fun ⟨_, h⟩ => nomatch h
    rw [lower_fn]
    refine (iha k .s ha hnd.2 (Or.inl hext)).bind fun a' ga => ?_
    have hPa : P k a' := ga.1.elim (·.1) fun ⟨_, _, _, _, h⟩ => absurd rfl h
    have hda := W.scalar_den hd1 ha ga
    exact Res.ok ⟨Or.inl ⟨W.fn hext hPa (fnCond_of_G S d lg k f a a' hda hnd.1), Or.inl rfl⟩,
      fun i j _ => congrArg (S.fn f) (hda i j)⟩
  | add as ih =>
    obtain ⟨hne, hm⟩ := (tyk_add d as k τ).mp hty
    exact W.lower_add k τ as hne fun a ha => ih a ha k τ (hm a ha)
      ((NDGList_iff S d lg as k).mp hnd a ha) (hx.imp id fun h => ty_add_sub d as h a ha)
  | mul as ih =>
    cases as with
    | nil => cases hty
    | cons a rest =>
      obtain ⟨τa, τs, ha, hF, hτs⟩ := (tyk_mul d a rest k τ).mp hty
      have htyped : ∀ x ∈ a :: rest, ∃ τx, tyk d x k = some τx := fun x hx => by
        rcases List.mem_cons.mp hx with rfl | hx
        · exact ⟨τa, ha⟩
        · obtain ⟨τx, _, hτx⟩ := forall₂_mem_left hF x hx
          exact ⟨τx, hτx⟩
      rw [lower_mul]
      refine (lowerList_res d lg (fun x t => ∀ τx, tyk d x k = some τx →
        Good S d lg (Shaped (P k) d) τx x t) (a :: rest) fun x hm => ?_).bind fun ts F => ?_
      · obtain ⟨τx, hτx⟩ := htyped x hm
        exact (ih x hm k τx hτx ((NDGList_iff S d lg _ k).mp hnd x hm)
          (hx.imp id fun h => ty_mul_sub d _ h x hm)).mono
          fun t g τx' h' => Option.some.inj (hτx.symm.trans h') ▸ g
      · cases F with
        | cons ga Frest =>
          obtain ⟨h0, hs⟩ := tmulList_mem τa τ τs hτs
          obtain ⟨hV, hden⟩ := W.mul_members hd1 k τ rest _ τs hF Frest hs
          exact ((foldMul_shaped S (W.scalarClass k) d _ τs _ τa τ (ga τa ha).1 hV hτs).imp_total
            fun _ => trivial).mono fun t ht => ⟨ht.1, fun i j hij => by
              rw [ht.2 i j, hden i j hij, W.factor_den hd1 ha (ga τa ha) h0 i j hij]; rfl⟩
  | op1 o a iha =>
    obtain ⟨τa, ha, hty⟩ := Option.bind_eq_some_iff.mp hty
    obtain ⟨cn, hcn⟩ := ty1_class d o τa τ hty
    rw [lower_op1 d lg o a cn hcn]
    exact (iha _ τa ha hnd (hx.imp id (ty_op1_sub d o a))).bind fun a' ga =>
      op1_step W hd lg o τa τ hty cn hcn k a a' (tyk_rank d a _ τa ha) ga
  | op2 o a b iha ihb =>
    obtain ⟨τa, ha, hty⟩ := Option.bind_eq_some_iff.mp hty
    obtain ⟨τb, hb, hty⟩ := Option.bind_eq_some_iff.mp hty
    rw [lower_op2]
    exact (iha _ τa ha hnd.1 (hx.imp id fun h => (ty_op2_sub d o a b h).1)).bind fun a' ga =>
      (ihb _ τb hb hnd.2 (hx.imp id fun h => (ty_op2_sub d o a b h).2)).bind fun b' gb =>
        op2_step W hd lg o τa τb τ hty k a b a' b' (tyk_rank d a _ τa ha) (tyk_rank d b _ τb hb) ga gb
  | _ => cases hty

end

/-! ### the induction on the two classes -/

theorem lower_ty_res (S : DRing K) (d : Nat) (hd : d = 1 ∨ d = 2 ∨ d = 3) (lg : Bool) (e : E) (τ : Ty)
    (hty : ty d e = some τ) :
    Res True (Good S d lg (Shaped (fun t => LS t = true) d) τ e) (lower d lg e) :=
  lower_forms (forms_LS S d True) hd e 0 τ (tyk_of_ty d e τ hty 0) (NDG_of_ty S d lg e ⟨τ, hty⟩ 0)
    (Or.inr ⟨τ, hty⟩)

/-- totality does not depend on the ring (in dimension 1 it rests on the repaired `Add` branch:
    `grad(h) + F`) -/
theorem lower_ty_total_all (d : Nat) (hd : d = 1 ∨ d = 2 ∨ d = 3) (lg : Bool) (e : E) (τ : Ty)
    (hty : ty d e = some τ) : ∃ t, lower d lg e = .ok t :=
  (lower_ty_res trivialRing d hd lg e τ hty).1 trivial

theorem lower_tyk_sound (S : DRing K) (T : FnTable S) (d : Nat) (hd : d = 1 ∨ d = 2 ∨ d = 3)
    (lg : Bool) (e : E) (k : Nat) (τ : Ty) (t : E) (hty : tyk d e k = some τ)
    (hnd : NDG S d lg e k) (hl : lower d lg e = .ok t) : Good S d lg (Shaped (LN S k) d) τ e t :=
  (lower_forms (forms_LN S T d) hd e k τ hty hnd (Or.inl trivial)).2 t hl

end Sympde.Lower

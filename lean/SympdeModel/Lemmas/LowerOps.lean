/-
  Types and shapes of lowered values, the classical operators as functions of the components of
  their arguments (`op1sem`, `op2sem`), their typing (`ty1`, `ty2`, `tmul`) and order (`ord1`,
  `ord2`), and their congruence on the in-range components.
-/
import SympdeModel.Lemmas.Lower
namespace Sympde.Lower
open E PD
open DRing (sumN sumN_congr)

variable {K : Type} [CommRing K] [Algebra ℚ K]

/-! ### types, in-range components, shapes -/

/-- scalar-, vector-, matrix-valued -/
inductive Ty where | s | v | m
  deriving DecidableEq, Repr

def rk : Ty → Nat
  | .s => 0 | .v => 1 | .m => 2

/-- the components of a value of type `τ` in dimension `d` (a scalar has the single component (0,0)) -/
def InR (d : Nat) : Ty → Nat → Nat → Prop
  | .s, i, j => i = 0 ∧ j = 0
  | .v, i, j => i < d ∧ j = 0
  | .m, i, j => i < d ∧ j < d

def rows (d : Nat) : Ty → Nat
  | .s => 1 | .v => d | .m => d
def cols (d : Nat) : Ty → Nat
  | .s => 1 | .v => 1 | .m => d

theorem InR_iff (d : Nat) (τ : Ty) (i j : Nat) : InR d τ i j ↔ i < rows d τ ∧ j < cols d τ := by
  cases τ <;> simp [InR, rows, cols]

theorem InR_one (τ : Ty) (i j : Nat) : InR 1 τ i j ↔ i = 0 ∧ j = 0 := by
  cases τ <;> simp [InR]

theorem InR_zero_zero (d : Nat) (hd : 1 ≤ d) (τ : Ty) : InR d τ 0 0 := by
  cases τ <;> simp [InR] <;> omega

/-- the shape of the lowered form of a value of type `τ`: a scalar form; a `d×1` column; a `d×d`
    matrix — in dimension 1 a vector or matrix may also be returned as a bare scalar form, and a
    1×1 matrix is a column -/
def hasShape (d : Nat) : Ty → E → Bool
  | .s, t => LS t
  | .v, mat r c es => r == d && c == 1 && es.length == d && LSList es
  | .v, t => d == 1 && LS t
  | .m, mat r c es => r == d && c == d && es.length == d * d && LSList es
  | .m, t => d == 1 && LS t

theorem hasShape_VF (d : Nat) (τ : Ty) (t : E) (h : hasShape d τ t = true) : VF t = true := by
  unfold hasShape at h
  split at h
  · cases t <;> first | exact h | exact nomatch h
  · exact (Bool.and_eq_true _ _ ▸ h).2
  · rename_i hm
    cases t <;> first | exact absurd rfl (hm _ _ _) | exact (Bool.and_eq_true _ _ ▸ h).2
  · exact (Bool.and_eq_true _ _ ▸ h).2
  · rename_i hm
    cases t <;> first | exact absurd rfl (hm _ _ _) | exact (Bool.and_eq_true _ _ ▸ h).2

theorem hasShape_s_LS (d : Nat) (t : E) (h : hasShape d .s t = true) : LS t = true := h

/-- the same test on a leaf formula -/
def shapeOK (d : Nat) : Ty → E → Bool
  | .s, f => FS f
  | .v, mat r c fs => r == d && c == 1 && fs.length == d && FSList fs
  | .v, f => d == 1 && FS f
  | .m, mat r c fs => r == d && c == d && fs.length == d * d && FSList fs
  | .m, f => d == 1 && FS f

/-! ### the classical operators as functions of the components of their arguments -/

def op1sem (S : DRing K) (d : Nat) (lg : Bool) (o : Op1) (r : Nat) (A : Nat → Nat → K)
    (i j : Nat) : K :=
  match o with
  | .grad => if r = 0 then Di S lg i (A 0 0) else Di S lg i (A j 0)
  | .div => if r = 1 then sumN d (fun k => Di S lg k (A k 0)) else sumN d (fun k => Di S lg k (A k i))
  | .curl =>
      if d = 3 then
        (match i with
         | 0 => Di S lg 1 (A 2 0) - Di S lg 2 (A 1 0)
         | 1 => Di S lg 2 (A 0 0) - Di S lg 0 (A 2 0)
         | _ => Di S lg 0 (A 1 0) - Di S lg 1 (A 0 0))
      else Di S lg 0 (A 1 0) - Di S lg 1 (A 0 0)
  | .rot =>
      (match i with
       | 0 => Di S lg 1 (A 0 0)
       | _ => - Di S lg 0 (A 0 0))
  | .laplace => sumN d (fun k => Di S lg k (Di S lg k (A i j)))
  | .hessian => Di S lg i (Di S lg j (A 0 0))
  | _ => 0

theorem denG_op1 (S : DRing K) (d : Nat) (lg : Bool) (o : Op1) (a : E) (i j : Nat) :
    denG S d lg (op1 o a) i j = op1sem S d lg o (rank d a) (denG S d lg a) i j := by
  cases o <;> simp only [denG, op1sem] <;> rcases i with _ | _ | i <;> rfl

def op2sem (S : DRing K) (d : Nat) (lg : Bool) (o : Op2) (ra rb : Nat) (A B : Nat → Nat → K)
    (i j : Nat) : K :=
  match o with
  | .dot =>
      if ra = 2 then sumN d (fun k => A i k * B k 0)
      else if rb = 2 then sumN d (fun k => B i k * A k 0)
      else sumN d (fun k => A k 0 * B k 0)
  | .cross =>
      if d = 3 then
        (match i with
         | 0 => A 1 0 * B 2 0 - A 2 0 * B 1 0
         | 1 => A 2 0 * B 0 0 - A 0 0 * B 2 0
         | _ => A 0 0 * B 1 0 - A 1 0 * B 0 0)
      else A 0 0 * B 1 0 - A 1 0 * B 0 0
  | .inner =>
      if ra = 2 then sumN d (fun k => sumN d (fun l => A k l * B k l))
      else sumN d (fun k => A k 0 * B k 0)
  | .outer => A i 0 * B j 0
  | .convect => sumN d (fun k => A k 0 * Di S lg k (B i 0))
  | .bracket => Di S lg 0 (A 0 0) * Di S lg 1 (B 0 0) - Di S lg 1 (A 0 0) * Di S lg 0 (B 0 0)

theorem denG_op2 (S : DRing K) (d : Nat) (lg : Bool) (o : Op2) (a b : E) (i j : Nat) :
    denG S d lg (op2 o a b) i j
      = op2sem S d lg o (rank d a) (rank d b) (denG S d lg a) (denG S d lg b) i j := by
  cases o <;> simp only [denG, op2sem]
  rcases i with _ | _ | i <;> rfl

theorem op1sem_bindS (S : DRing K) (σ : List (String × E)) (d : Nat) (lg : Bool) (o : Op1) (r : Nat)
    (A : Nat → Nat → K) (i j : Nat) :
    op1sem (bindS S σ) d lg o r A i j = op1sem S d lg o r A i j := rfl

theorem op2sem_bindS (S : DRing K) (σ : List (String × E)) (d : Nat) (lg : Bool) (o : Op2)
    (ra rb : Nat) (A B : Nat → Nat → K) (i j : Nat) :
    op2sem (bindS S σ) d lg o ra rb A B i j = op2sem S d lg o ra rb A B i j := rfl

/-- typing of the unary operators: argument type ↦ result type (dimension-dependent for `curl`,
    2D only for `rot`) -/
def ty1 (d : Nat) : Op1 → Ty → Option Ty
  | .grad, .s => some .v
  | .grad, .v => some .m
  | .div, .v => some .s
  | .div, .m => some .v
  | .curl, .v => if d = 3 then some .v else if d = 2 then some .s else none
  | .rot, .s => if d = 2 then some .v else none
  | .laplace, .s => some .s
  | .laplace, .v => some .v
  | .hessian, .s => some .m
  | _, _ => none

def ty2 (d : Nat) : Op2 → Ty → Ty → Option Ty
  | .dot, .v, .v => some .s
  | .dot, .m, .v => some .v
  | .dot, .v, .m => some .v
  | .cross, .v, .v => if d = 3 then some .v else if d = 2 then some .s else none
  | .inner, .v, .v => some .s
  | .inner, .m, .m => some .s
  | .bracket, .s, .s => if d = 2 then some .s else none
  | _, _, _ => none

/-- types of products: at most one factor is not a scalar -/
def tmul : Ty → Ty → Option Ty
  | .s, τ => some τ
  | τ, .s => some τ
  | _, _ => none

theorem tmul_cases (τa τb τ : Ty) (h : tmul τa τb = some τ) :
    (τa = .s ∧ τ = τb) ∨ (τb = .s ∧ τ = τa) := by
  cases τa <;> cases τb <;> cases h <;> first | exact Or.inl ⟨rfl, rfl⟩ | exact Or.inr ⟨rfl, rfl⟩

/-- the type of a product, accumulated from the left -/
def tmulList : Ty → List Ty → Option Ty
  | τ, [] => some τ
  | τ, τx :: τs => (tmul τ τx).bind (fun τ' => tmulList τ' τs)

/-- the order of a differential operator: how deep derivative nodes nest in its component formulas -/
def ord1 : Op1 → Nat
  | .grad => 1 | .div => 1 | .curl => 1 | .rot => 1
  | .laplace => 2 | .hessian => 2
  | _ => 0

def ord2 : Op2 → Nat
  | .bracket => 1
  | _ => 0

theorem op1sem_congr (S : DRing K) (d : Nat) (hd : 1 ≤ d) (lg : Bool) (o : Op1) (τ τ' : Ty)
    (h : ty1 d o τ = some τ') (A A' : Nat → Nat → K)
    (hA : ∀ i j, InR d τ i j → A i j = A' i j) (i j : Nat) (hij : InR d τ' i j) :
    op1sem S d lg o (rk τ) A i j = op1sem S d lg o (rk τ) A' i j := by
  have h00 : ∀ τ, InR d τ 0 0 := InR_zero_zero d hd
  cases o <;> cases τ <;> simp only [ty1] at h <;> try (cases h)
  -- grad s
  · simp only [op1sem, rk, if_true]; rw [hA 0 0 (h00 _)]
  -- grad v
  · simp only [op1sem, rk]
    have : ¬ ((1 : Nat) = 0) := by decide
    simp only [this, if_false]
    rw [hA j 0 ⟨hij.2, rfl⟩]
  -- curl v
  · by_cases h3 : d = 3
    · subst h3
      simp only [op1sem, if_true]
      rw [hA 0 0 ⟨by decide, rfl⟩, hA 1 0 ⟨by decide, rfl⟩, hA 2 0 ⟨by decide, rfl⟩]
    · by_cases h2 : d = 2
      · subst h2
        simp only [op1sem, h3, if_false]
        rw [hA 0 0 ⟨by decide, rfl⟩, hA 1 0 ⟨by decide, rfl⟩]
      · simp [h3, h2] at h
  -- rot s
  · simp only [op1sem]; rw [hA 0 0 (h00 _)]
  -- div v
  · simp only [op1sem, rk, if_true]
    exact sumN_congr d _ _ (fun k hk => by rw [hA k 0 ⟨hk, rfl⟩])
  -- div m
  · simp only [op1sem, rk]
    have : ¬ ((2 : Nat) = 1) := by decide
    simp only [this, if_false]
    exact sumN_congr d _ _ (fun k hk => by rw [hA k i ⟨hk, hij.1⟩])
  -- laplace s
  · simp only [op1sem]
    obtain ⟨rfl, rfl⟩ := hij
    rw [hA 0 0 (h00 _)]
  -- laplace v
  · simp only [op1sem]; rw [hA i j hij]
  -- hessian s
  · simp only [op1sem]; rw [hA 0 0 (h00 _)]

theorem op1sem_rank_1d (S : DRing K) (lg : Bool) (o : Op1) (τ τ' : Ty) (h : ty1 1 o τ = some τ')
    (r r' : Nat) (A : Nat → Nat → K) :
    op1sem S 1 lg o r A 0 0 = op1sem S 1 lg o r' A 0 0 := by
  cases o <;> cases τ <;> simp [ty1] at h <;> simp [op1sem, sumN]

theorem op2sem_lg (S : DRing K) (d : Nat) (lg lg' : Bool) (o : Op2)
    (h : lg = lg' ∨ o = .dot ∨ o = .cross ∨ o = .inner) (ra rb : Nat) (A B : Nat → Nat → K) (i j : Nat) :
    op2sem S d lg o ra rb A B i j = op2sem S d lg' o ra rb A B i j := by
  rcases h with rfl | rfl | rfl | rfl <;> rfl

theorem op2sem_congr (S : DRing K) (d : Nat) (hd : 1 ≤ d) (lg : Bool) (o : Op2) (τa τb τ' : Ty)
    (h : ty2 d o τa τb = some τ') (A A' B B' : Nat → Nat → K)
    (hA : ∀ i j, InR d τa i j → A i j = A' i j) (hB : ∀ i j, InR d τb i j → B i j = B' i j)
    (i j : Nat) (hij : InR d τ' i j) :
    op2sem S d lg o (rk τa) (rk τb) A B i j = op2sem S d lg o (rk τa) (rk τb) A' B' i j := by
  have h00 : ∀ τ, InR d τ 0 0 := InR_zero_zero d hd
  cases o <;> cases τa <;> cases τb <;> simp only [ty2] at h <;> try (cases h)
  -- dot v v
  · simp only [op2sem, rk]
    have : ¬ ((1 : Nat) = 2) := by decide
    simp only [this, if_false]
    exact sumN_congr d _ _ (fun k hk => by rw [hA k 0 ⟨hk, rfl⟩, hB k 0 ⟨hk, rfl⟩])
  -- dot v m
  · simp only [op2sem, rk]
    have : ¬ ((1 : Nat) = 2) := by decide
    simp only [this, if_false, if_true]
    exact sumN_congr d _ _ (fun k hk => by rw [hA k 0 ⟨hk, rfl⟩, hB i k ⟨hij.1, hk⟩])
  -- dot m v
  · simp only [op2sem, rk, if_true]
    exact sumN_congr d _ _ (fun k hk => by rw [hA i k ⟨hij.1, hk⟩, hB k 0 ⟨hk, rfl⟩])
  -- cross v v
  · by_cases h3 : d = 3
    · subst h3
      simp only [op2sem, if_true]
      rw [hA 0 0 ⟨by decide, rfl⟩, hA 1 0 ⟨by decide, rfl⟩, hA 2 0 ⟨by decide, rfl⟩,
        hB 0 0 ⟨by decide, rfl⟩, hB 1 0 ⟨by decide, rfl⟩, hB 2 0 ⟨by decide, rfl⟩]
    · by_cases h2 : d = 2
      · subst h2
        simp only [op2sem, h3, if_false]
        rw [hA 0 0 ⟨by decide, rfl⟩, hA 1 0 ⟨by decide, rfl⟩,
          hB 0 0 ⟨by decide, rfl⟩, hB 1 0 ⟨by decide, rfl⟩]
      · simp [h3, h2] at h
  -- inner v v
  · simp only [op2sem, rk]
    have : ¬ ((1 : Nat) = 2) := by decide
    simp only [this, if_false]
    exact sumN_congr d _ _ (fun k hk => by rw [hA k 0 ⟨hk, rfl⟩, hB k 0 ⟨hk, rfl⟩])
  -- inner m m
  · simp only [op2sem, rk, if_true]
    exact sumN_congr d _ _ (fun k hk => sumN_congr d _ _ (fun l hl => by
      rw [hA k l ⟨hk, hl⟩, hB k l ⟨hk, hl⟩]))
  -- bracket s s
  · simp only [op2sem]
    rw [hA 0 0 (h00 _), hB 0 0 (h00 _)]

theorem op2sem_rank_1d (S : DRing K) (lg : Bool) (o : Op2) (τa τb τ' : Ty)
    (h : ty2 1 o τa τb = some τ') (ra rb ra' rb' : Nat) (A B : Nat → Nat → K) :
    op2sem S 1 lg o ra rb A B 0 0 = op2sem S 1 lg o ra' rb' A B 0 0 := by
  -- in dimension 1 only `dot` and `inner` are typed, and both are the product of the two components
  have ho : o = .dot ∨ o = .inner := by
    cases o
    case dot => exact Or.inl rfl
    case inner => exact Or.inr rfl
    all_goals (cases τa <;> cases τb <;> simp [ty2] at h)
  have key : ∀ r s, op2sem S 1 lg o r s A B 0 0 = A 0 0 * B 0 0 := fun r s => by
    rcases ho with rfl | rfl <;> simp only [op2sem, sumN] <;> split_ifs <;> ring
  rw [key, key]

end Sympde.Lower

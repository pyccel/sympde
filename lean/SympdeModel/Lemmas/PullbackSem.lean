/-
  C03: the semantic relation between the physical and the logical reading of an expression, the
  fragment of terminal physical expressions, the case lemmas of `logical_sound`, and for the
  commuting relations the chain rule and the vector pull-backs in dimensions 2 and 3, the pull-backs
  read backwards (`û = Jᵀ u`, `û = adj(J) u`: where `det J · inv (det J) = 1` enters the 2-D and 3-D rules).
-/
import SympdeModel.Lemmas.Pullback
import SympdeModel.Lemmas.Piola

namespace Sympde
namespace PB
open E PD
open DRing (sumN)

variable {K : Type} [CommRing K] [Algebra ℚ K]

/-- the names of the logical coordinates (they do not occur in an expression of the physical domain) -/
def isLogName (s : String) : Bool := s == "x1" || s == "x2" || s == "x3"

/-- the physical coordinate operator number `i` -/
def pc (i : Nat) : Coord := Coord.ofIdx false i

/-- Two readings of the same point x̂ of the logical patch, both in the ring `K` of functions of x̂:
    `SL` reads an expression of the logical domain (logical functions û, logical derivatives ∂̂),
    `SP` reads an expression of the physical domain *at the image point F(x̂)*.  They are related by
      * the coordinates x, y, z are the components of the mapping,
      * the physical derivatives are given by the chain rule through the inverse Jacobian,
      * a physical function of kind κ is the push-forward of the logical one:
        H1/undefined û; L2 û/det; H(curl) J⁻ᵀû; H(div) Jû/det
        (i.e. û is the pull-back named in the property),
      * everything else (constants, parameters, elementary functions) is shared. -/
structure MapRel (SL SP : DRing K) (m : String) (j : Jac) (F : Nat → E) (κs κv : String → Kind) : Prop where
  d_pos : 1 ≤ j.d
  d_le : j.d ≤ 3
  fn_eq : SP.fn = SL.fn
  inv_eq : SP.inv = SL.inv
  rpow_eq : SP.rpow = SL.rpow
  cst_eq : SP.cst = SL.cst
  sym_coord : ∀ i, i < j.d → ∀ a b, SP.sym (pc i).name = den SL (F i) a b
  sym_other : ∀ s, (∀ i, physIdx s = some i → j.d ≤ i) → isLogName s = false → SP.sym s = SL.sym s
  F_int : ∀ i, IntPow (F i) = true
  F_nd : ∀ i, NonDeg SL (F i)
  J_int : ∀ i l, IntPow (j.J i l) = true
  J_nd : ∀ i l, NonDeg SL (j.J i l)
  det_unit : ∀ a b, den SL (detJ j) a b * SL.inv (den SL (detJ j) a b) = 1
  chain : ∀ i, i < j.d → ∀ k a b,
    SP.D (pc i) k = sumN j.d (fun l => den SL (invJ j l i) a b * SL.D (lc l) k)
  sf_pb : ∀ s a b, SP.sf s = den SL (match κs s with
      | .l2 => mul [sf s (κs s), invDet j]
      | _ => sf s (κs s)) a b
  vf_pb : ∀ s i, i < j.d → ∀ a b, SP.vf s i = den SL (pbVec j s (κv s) i) a b

mutual
/-- terminal physical expressions: physical derivatives and components below the dimension,
    integer powers, every function carrying the kind of its space -/
def Frag (d : Nat) (κs κv : String → Kind) : E → Bool
  | num _ _ => true
  | cst _ => true
  | sym s => !isLogName s
  | sf s k => decide (k = κs s)
  | idx (vf s k) i => decide (k = κv s) && decide (i < d)
  | add as => FragList d κs κv as
  | mul as => FragList d κs κv as
  | pow b e => (intLit e).isSome && Frag d κs κv b
  | fn _ a => Frag d κs κv a
  | pd c a => !c.logical && decide (c.idx < d) && Frag d κs κv a
  | _ => false
def FragList (d : Nat) (κs κv : String → Kind) : List E → Bool
  | [] => true
  | a :: as => Frag d κs κv a && FragList d κs κv as
end

theorem FragList_mem (d : Nat) (κs κv : String → Kind) (as : List E) (h : FragList d κs κv as = true)
    (a : E) (ha : a ∈ as) : Frag d κs κv a = true := by
  induction as with
  | nil => cases ha
  | cons x xs ih =>
    simp only [FragList, Bool.and_eq_true] at h
    rcases List.mem_cons.mp ha with rfl | ha
    · exact h.1
    · exact ih h.2 ha

theorem physIdx_name (s : String) (i : Nat) (h : physIdx s = some i) (hi : i < 3) : s = (pc i).name := by
  unfold physIdx at h
  split at h <;> first
    | (injection h with h; subst h; rfl)
    | cases h

theorem pc_of_phys (c : Coord) (h : c.logical = false) : c = pc c.idx := by
  cases c <;> first | rfl | cases h

section
variable {SL SP : DRing K} {m : String} {j : Jac} {F : Nat → E} {κs κv : String → Kind}

theorem MapRel.invDet_int (R : MapRel SL SP m j F κs κv) : IntPow (invDet j) = true := by
  simp [invDet, IntPow, intLit, IntPow_detJ j R.J_int]

theorem MapRel.invDet_nd (R : MapRel SL SP m j F κs κv) : NonDeg SL (invDet j) := by
  simp only [invDet, NonDeg, intLit]
  exact ⟨fun a b => R.det_unit a b, NonDeg_detJ SL j R.J_nd, trivial⟩

theorem MapRel.invJ_int (R : MapRel SL SP m j F κs κv) (i k : Nat) : IntPow (invJ j i k) = true :=
  IntPow_mul2 _ _ (IntPow_adjJ j R.J_int i k) R.invDet_int

theorem MapRel.invJ_nd (R : MapRel SL SP m j F κs κv) (i k : Nat) : NonDeg SL (invJ j i k) :=
  NonDeg_mul2 SL _ _ (NonDeg_adjJ SL j R.J_nd i k) R.invDet_nd

theorem MapRel.pbVec_int (R : MapRel SL SP m j F κs κv) (s : String) (k : Kind) (i : Nat) :
    IntPow (pbVec j s k i) = true := by
  cases k <;> simp only [pbVec]
  · rfl
  · exact IntPow_sum3 _ _ (fun l => IntPow_mul2 _ _ (R.invJ_int l i) rfl)
  · exact IntPow_mul2 _ _ (IntPow_sum3 _ _ (fun l => IntPow_mul2 _ _ (R.J_int i l) rfl)) R.invDet_int
  · exact IntPow_mul2 _ _ rfl R.invDet_int
  · rfl

theorem MapRel.pbVec_nd (R : MapRel SL SP m j F κs κv) (s : String) (k : Kind) (i : Nat) :
    NonDeg SL (pbVec j s k i) := by
  have hidx : ∀ k l, NonDeg SL (idx (vf s k) l) := fun k l => by simp [NonDeg]
  cases k <;> simp only [pbVec]
  · exact hidx _ i
  · exact NonDeg_sum3 SL _ _ (fun l => NonDeg_mul2 SL _ _ (R.invJ_nd l i) (hidx _ l))
  · exact NonDeg_mul2 SL _ _ (NonDeg_sum3 SL _ _ (fun l => NonDeg_mul2 SL _ _ (R.J_nd i l) (hidx _ l))) R.invDet_nd
  · exact NonDeg_mul2 SL _ _ (hidx _ i) R.invDet_nd
  · exact hidx _ i

/-- a component of the logical gradient: the derivative below the dimension, `0` beyond -/
theorem lgrad_all (S : DRing K) (T : FnTable S) (m : String) (d : Nat) (la : E) (hi : IntPow la = true)
    (hn : NonDeg S la) (l : Nat) (g : E) (h : lgrad m d la l = .ok g) :
    IntPow g = true ∧ NonDeg S g ∧ (l < d → ∀ x y, den S g x y = S.D (lc l) (den S la x y)) := by
  unfold lgrad at h
  split at h
  · obtain ⟨a, b, c⟩ := ldiff_all S T m (lc l) la hi hn g h
    exact ⟨a, b, fun _ => c⟩
  · cases h
    exact ⟨rfl, NonDeg_zero S, fun hl => absurd hl ‹_›⟩

/-- the `dx/dy/dz` rule: `Covariant(F, LogicalGrad(la))[i] = Σ_l (J⁻¹)_li ∂̂_l la` denotes the physical
    derivative of what `la` denotes -/
theorem MapRel.pd_case (R : MapRel SL SP m j F κs κv) (T : FnTable SL) (c : Coord) (hc : c.logical = false)
    (hci : c.idx < j.d) (la : E) (hi : IntPow la = true) (hn : NonDeg SL la) (g0 g1 g2 : E)
    (h0 : lgrad m j.d la 0 = .ok g0) (h1 : lgrad m j.d la 1 = .ok g1) (h2 : lgrad m j.d la 2 = .ok g2) :
    IntPow (sum3 j.d (fun l => mul [invJ j l c.idx, pick3 g0 g1 g2 l])) = true ∧
    NonDeg SL (sum3 j.d (fun l => mul [invJ j l c.idx, pick3 g0 g1 g2 l])) ∧
    ∀ x y, den SL (sum3 j.d (fun l => mul [invJ j l c.idx, pick3 g0 g1 g2 l])) x y
      = SP.D c (den SL la x y) := by
  obtain ⟨a0, b0, c0⟩ := lgrad_all SL T m j.d la hi hn 0 g0 h0
  obtain ⟨a1, b1, c1⟩ := lgrad_all SL T m j.d la hi hn 1 g1 h1
  obtain ⟨a2, b2, c2⟩ := lgrad_all SL T m j.d la hi hn 2 g2 h2
  have gi : ∀ l, IntPow (pick3 g0 g1 g2 l) = true := by
    intro l; unfold pick3; split <;> assumption
  have gn : ∀ l, NonDeg SL (pick3 g0 g1 g2 l) := by
    intro l; unfold pick3; split <;> assumption
  refine ⟨IntPow_sum3 _ _ (fun l => IntPow_mul2 _ _ (R.invJ_int l c.idx) (gi l)),
    NonDeg_sum3 SL _ _ (fun l => NonDeg_mul2 SL _ _ (R.invJ_nd l c.idx) (gn l)), fun x y => ?_⟩
  have hch := R.chain c.idx hci (den SL la x y) x y
  rw [← pc_of_phys c hc] at hch
  rw [den_sum3 SL j.d R.d_le, hch]
  apply DRing.sumN_congr
  intro l hl
  rw [den_mul2]
  have hd := R.d_le
  match l, hl with
  | 0, h => show _ * den SL g0 x y = _; rw [c0 h x y]
  | 1, h => show _ * den SL g1 x y = _; rw [c1 h x y]
  | 2, h => show _ * den SL g2 x y = _; rw [c2 h x y]
  | l + 3, h => omega

/-! #### dimension 2 -/

theorem MapRel.chain2 (R : MapRel SL SP m j F κs κv) (hd : j.d = 2) (k : K) (x y : Nat) :
    SP.D .x k = Piola.dp1 SL (den SL (j.J 1 0) x y) (den SL (j.J 1 1) x y) (SL.inv (den SL (detJ j) x y)) k ∧
    SP.D .y k = Piola.dp2 SL (den SL (j.J 0 0) x y) (den SL (j.J 0 1) x y) (SL.inv (den SL (detJ j) x y)) k := by
  rw [show Coord.x = pc 0 from rfl, show Coord.y = pc 1 from rfl, R.chain 0 (by omega) k x y,
    R.chain 1 (by omega) k x y, hd]
  simp only [Piola.dp1, Piola.dp2, sumN, den_invJ, adjJ, hd, den_neg, lc, Coord.ofIdx, if_true]
  constructor <;> ring

/-- the logical field of an H(div) function is `û = adj(J) u`, of an H(curl) function `û = Jᵀ u` -/
theorem MapRel.hdiv_pull2 (R : MapRel SL SP m j F κs κv) (hd : j.d = 2) (s : String) (hk : κv s = .hdiv)
    (x y : Nat) :
    SL.vf s 0 = SP.vf s 0 * den SL (j.J 1 1) x y - SP.vf s 1 * den SL (j.J 0 1) x y ∧
    SL.vf s 1 = SP.vf s 1 * den SL (j.J 0 0) x y - SP.vf s 0 * den SL (j.J 1 0) x y := by
  have hdet := R.det_unit x y
  rw [den_detJ2 SL j hd] at hdet
  rw [R.vf_pb s 0 (by omega) x y, R.vf_pb s 1 (by omega) x y]
  simp only [hk, pbVec, hd, sum3, den_add2, den_mul2, den_invDet, den_idx_vf, den_detJ2 SL j hd]
  exact ⟨by linear_combination (-SL.vf s 0) * hdet, by linear_combination (-SL.vf s 1) * hdet⟩

theorem MapRel.hcurl_pull2 (R : MapRel SL SP m j F κs κv) (hd : j.d = 2) (s : String) (hk : κv s = .hcurl)
    (x y : Nat) :
    SL.vf s 0 = SP.vf s 0 * den SL (j.J 0 0) x y + SP.vf s 1 * den SL (j.J 1 0) x y ∧
    SL.vf s 1 = SP.vf s 0 * den SL (j.J 0 1) x y + SP.vf s 1 * den SL (j.J 1 1) x y := by
  have hdet := R.det_unit x y
  rw [den_detJ2 SL j hd] at hdet
  rw [R.vf_pb s 0 (by omega) x y, R.vf_pb s 1 (by omega) x y]
  simp only [hk, pbVec, hd, sum3, den_add2, den_mul2, den_invJ, adjJ, den_neg, den_idx_vf, den_detJ2 SL j hd]
  exact ⟨by linear_combination (-SL.vf s 0) * hdet, by linear_combination (-SL.vf s 1) * hdet⟩

/-! #### dimension 3 -/

/-- the chain rule, the inverse Jacobian written as adjugate over determinant -/
theorem MapRel.chain3 (R : MapRel SL SP m j F κs κv) (hd : j.d = 3) (i : Nat) (hi : i < 3) (k : K) (x y : Nat) :
    SP.D (pc i) k = SL.inv (den SL (detJ j) x y) *
      (den SL (adjJ j 0 i) x y * SL.D .x1 k + den SL (adjJ j 1 i) x y * SL.D .x2 k
        + den SL (adjJ j 2 i) x y * SL.D .x3 k) := by
  rw [R.chain i (hd ▸ hi) k x y, hd]
  simp only [sumN, den_invJ, lc, Coord.ofIdx, if_true]
  ring

/-- the logical field of an H(curl) function is `û = Jᵀ u` -/
theorem MapRel.hcurl_pull3 (R : MapRel SL SP m j F κs κv) (hd : j.d = 3) (s : String) (hk : κv s = .hcurl)
    (x y l : Nat) (hl : l < 3) :
    SL.vf s l = SP.vf s 0 * den SL (j.J 0 l) x y + SP.vf s 1 * den SL (j.J 1 l) x y
      + SP.vf s 2 * den SL (j.J 2 l) x y := by
  have hdet := R.det_unit x y
  rw [den_detJ3 SL j hd] at hdet
  rw [R.vf_pb s 0 (by omega) x y, R.vf_pb s 1 (by omega) x y, R.vf_pb s 2 (by omega) x y]
  simp only [hk, pbVec, hd, sum3, den_add3, den_mul2, den_invJ, den_adjJ3 SL j hd, den_idx_vf, den_detJ3 SL j hd,
    Nat.reduceAdd, Nat.reduceMod]
  match l, hl with
  | 0, _ => linear_combination (-SL.vf s 0) * hdet
  | 1, _ => linear_combination (-SL.vf s 1) * hdet
  | 2, _ => linear_combination (-SL.vf s 2) * hdet

/-- the logical field of an H(div) function is `û = adj(J) u = det J · J⁻¹ u`; column `l` of the
    adjugate written out as cross products of the rows of `J` -/
theorem MapRel.hdiv_pull3 (R : MapRel SL SP m j F κs κv) (hd : j.d = 3) (s : String) (hk : κv s = .hdiv)
    (x y l : Nat) (hl : l < 3) :
    SL.vf s l
      = SP.vf s 0 * (den SL (j.J 1 ((l + 1) % 3)) x y * den SL (j.J 2 ((l + 2) % 3)) x y
          - den SL (j.J 1 ((l + 2) % 3)) x y * den SL (j.J 2 ((l + 1) % 3)) x y)
        + SP.vf s 1 * (den SL (j.J 2 ((l + 1) % 3)) x y * den SL (j.J 0 ((l + 2) % 3)) x y
          - den SL (j.J 2 ((l + 2) % 3)) x y * den SL (j.J 0 ((l + 1) % 3)) x y)
        + SP.vf s 2 * (den SL (j.J 0 ((l + 1) % 3)) x y * den SL (j.J 1 ((l + 2) % 3)) x y
          - den SL (j.J 0 ((l + 2) % 3)) x y * den SL (j.J 1 ((l + 1) % 3)) x y) := by
  have hdet := R.det_unit x y
  rw [den_detJ3 SL j hd] at hdet
  rw [R.vf_pb s 0 (by omega) x y, R.vf_pb s 1 (by omega) x y, R.vf_pb s 2 (by omega) x y]
  simp only [hk, pbVec, hd, sum3, den_add3, den_mul2, den_invDet, den_idx_vf, den_detJ3 SL j hd]
  match l, hl with
  | 0, _ => linear_combination (-SL.vf s 0) * hdet
  | 1, _ => linear_combination (-SL.vf s 1) * hdet
  | 2, _ => linear_combination (-SL.vf s 2) * hdet

end

end PB
end Sympde

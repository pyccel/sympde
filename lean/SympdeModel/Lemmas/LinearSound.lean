/-
  The additivity and the homogeneity test of Model/Linear.lean: what a verdict consists of
  (`additive_eq_ok`, `homogeneous_eq_ok`), soundness of a positive verdict where re-evaluation
  preserves the meaning (`ReevalSound`), and totality on the operator-free fragment, where it does.
-/
import SympdeModel.Lemmas.Linear
import SympdeModel.Lemmas.RingEq
import SympdeModel.Sem.Instances
namespace Sympde.Linear
open E
open Sympde.Sub

variable {K : Type} [CommRing K] [Algebra ℚ K]

/-- the re-evaluation of a tree preserves its (scalar) meaning — the statement of C02 / C05 for
    the constructors involved; proved below for the operator-free fragment -/
def ReevalSound (S : DRing K) (d : Nat) (lg : Bool) (t : E) : Prop :=
  ∀ t', reeval2 d t = .ok t' → denG S d lg t' 0 0 = denG S d lg t 0 0

/-- the sums `l + r` and the multiples `α·l` substituted by the test -/
def sumVals (args : List E) : List E :=
  List.zipWith (fun l r => add [l, r]) (freshList "l#" args) (freshList "r#" args)
def mulVals (args : List E) : List E := (freshList "l#" args).map (fun l => mul [alpha, l])

def isFn : E → Bool
  | sf _ _ => true
  | vf _ _ => true
  | _ => false

theorem isFn_leaf (a : E) (h : isFn a = true) : Apply.isLeafKey a = true := by
  cases a <;> first | rfl | cases h

/-! ### the two tests, read off their definitions -/

theorem additive_eq_ok (d : Nat) (args : List E) (e : E) (b : Bool) :
    additive d args e = .ok b ↔
      ∃ n l r, reeval2 d (subst (args.zip (sumVals args)) e) = .ok n ∧
        reeval2 d (subst (args.zip (freshList "l#" args)) e) = .ok l ∧
        reeval2 d (subst (args.zip (freshList "r#" args)) e) = .ok r ∧ RingEq.ringEq d n (add [l, r]) = b := by
  simp only [additive, substEval, sumVals]
  cases reeval2 d (subst (args.zip (List.zipWith (fun l r => add [l, r]) (freshList "l#" args)
      (freshList "r#" args))) e) <;>
    cases reeval2 d (subst (args.zip (freshList "l#" args)) e) <;>
    cases reeval2 d (subst (args.zip (freshList "r#" args)) e) <;> simp

theorem homogeneous_eq_ok (d : Nat) (args : List E) (e : E) (b : Bool) :
    homogeneous d args e = .ok b ↔
      ∃ n l, reeval2 d (subst (args.zip (mulVals args)) e) = .ok n ∧
        reeval2 d (subst (args.zip (freshList "l#" args)) e) = .ok l ∧ RingEq.ringEq d n (mul [alpha, l]) = b := by
  simp only [homogeneous, substEval, mulVals]
  cases reeval2 d (subst (args.zip ((freshList "l#" args).map fun l => mul [alpha, l])) e) <;>
    cases reeval2 d (subst (args.zip (freshList "l#" args)) e) <;> simp

/-- a positive additivity test: `e[a ↦ l + r]` means `e[a ↦ l] + e[a ↦ r]`, wherever the three
    re-evaluations preserve the meaning -/
theorem additive_sound (S : DRing K) (d : Nat) (lg : Bool) (args : List E) (e : E)
    (ha : additive d args e = .ok true)
    (hn : ReevalSound S d lg (subst (args.zip (sumVals args)) e))
    (hl : ReevalSound S d lg (subst (args.zip (freshList "l#" args)) e))
    (hr : ReevalSound S d lg (subst (args.zip (freshList "r#" args)) e)) :
    denG S d lg (subst (args.zip (sumVals args)) e) 0 0
      = denG S d lg (subst (args.zip (freshList "l#" args)) e) 0 0
        + denG S d lg (subst (args.zip (freshList "r#" args)) e) 0 0 := by
  obtain ⟨n, l, r, en, el, er, hb⟩ := (additive_eq_ok d args e true).mp ha
  rw [← hn n en, ← hl l el, ← hr r er, RingEq.ringEq_sound S d lg n _ hb]
  simp only [denG, denGSum, add_zero]

/-- a positive homogeneity test: `e[a ↦ α·l]` means `α · e[a ↦ l]`, wherever the two
    re-evaluations preserve the meaning -/
theorem homogeneous_sound (S : DRing K) (d : Nat) (lg : Bool) (args : List E) (e : E)
    (hh : homogeneous d args e = .ok true)
    (hn : ReevalSound S d lg (subst (args.zip (mulVals args)) e))
    (hl : ReevalSound S d lg (subst (args.zip (freshList "l#" args)) e)) :
    denG S d lg (subst (args.zip (mulVals args)) e) 0 0
      = S.cst "alpha#" * denG S d lg (subst (args.zip (freshList "l#" args)) e) 0 0 := by
  obtain ⟨n, l, en, el, hb⟩ := (homogeneous_eq_ok d args e true).mp hh
  rw [← hn n en, ← hl l el, RingEq.ringEq_sound S d lg n _ hb]
  simp only [denG, denGProd, alpha, mul_one]

/-! ### the operator-free fragment -/

theorem fresh_opfree (pre : String) (k : Nat) (a : E) (h : isFn a = true) : OpFree (fresh pre k a) = true := by
  cases a <;> first | rfl | cases h

theorem freshList_opfree (pre : String) (args : List E) (h : ∀ a ∈ args, isFn a = true) :
    ∀ x ∈ freshList pre args, OpFree x = true := by
  intro x hx
  simp only [freshList, List.mem_map] at hx
  obtain ⟨p, hp, rfl⟩ := hx
  exact fresh_opfree pre p.2 p.1 (h _ (List.of_mem_zip hp).1)

theorem sumVals_opfree (args : List E) (h : ∀ a ∈ args, isFn a = true) : ∀ v ∈ sumVals args, OpFree v = true := by
  intro v hv
  simp only [sumVals, List.mem_iff_getElem, List.getElem_zipWith, List.length_zipWith] at hv
  obtain ⟨i, hi, rfl⟩ := hv
  simp only [OpFree, OpFreeList, Bool.and_true, Bool.and_eq_true]
  exact ⟨freshList_opfree "l#" args h _ (List.getElem_mem _), freshList_opfree "r#" args h _ (List.getElem_mem _)⟩

theorem mulVals_opfree (args : List E) (h : ∀ a ∈ args, isFn a = true) : ∀ v ∈ mulVals args, OpFree v = true := by
  intro v hv
  simp only [mulVals, List.mem_map] at hv
  obtain ⟨l, hl, rfl⟩ := hv
  simp only [OpFree, OpFreeList, alpha, freshList_opfree "l#" args h l hl, Bool.and_self]

theorem reevalSound_opfree (S : DRing K) (d : Nat) (lg : Bool) (args vals : List E) (e : E)
    (hargs : ∀ a ∈ args, isFn a = true) (hvals : ∀ v ∈ vals, OpFree v = true) (he : OpFree e = true) :
    ReevalSound S d lg (subst (args.zip vals) e) ∧ ∃ t', reeval2 d (subst (args.zip vals) e) = .ok t' := by
  have ho := subst_opfree (args.zip vals) (fun p hp => isFn_leaf _ (hargs _ (List.of_mem_zip hp).1))
    (fun p hp => hvals _ (List.of_mem_zip hp).2) e he
  obtain ⟨t1, h1, ho1, h3⟩ := reeval_opfree S d lg _ ho
  obtain ⟨t', h1', _, h3'⟩ := reeval_opfree S d lg t1 ho1
  have h2 : reeval2 d (subst (args.zip vals) e) = .ok t' := by simp only [reeval2, h1, h1']
  exact ⟨fun t'' h => by rw [h2] at h; injection h with h; subst h; rw [h3' 0 0, h3 0 0], t', h2⟩

theorem tests_total (d : Nat) (args : List E) (e : E) (hargs : ∀ a ∈ args, isFn a = true) (he : OpFree e = true) :
    (∃ b, additive d args e = .ok b) ∧ (∃ b, homogeneous d args e = .ok b) := by
  -- any differential ring serves: only the existence of the re-evaluated trees is used
  have ex := fun vals hv =>
    (reevalSound_opfree (polyDRing (fun _ => 0) (fun _ _ => 0) (fun _ => 0)) d false args vals e hargs hv he).2
  obtain ⟨n, hn⟩ := ex _ (sumVals_opfree args hargs)
  obtain ⟨m, hm⟩ := ex _ (mulVals_opfree args hargs)
  obtain ⟨l, hl⟩ := ex _ (freshList_opfree "l#" args hargs)
  obtain ⟨r, hr⟩ := ex _ (freshList_opfree "r#" args hargs)
  exact ⟨⟨_, (additive_eq_ok d args e _).mpr ⟨n, l, r, hn, hl, hr, rfl⟩⟩,
    ⟨_, (homogeneous_eq_ok d args e _).mpr ⟨m, l, hm, hl, rfl⟩⟩⟩

theorem homogeneous_sound_opfree (S : DRing K) (d : Nat) (lg : Bool) (args : List E) (e : E)
    (hargs : ∀ a ∈ args, isFn a = true) (he : OpFree e = true) (hh : homogeneous d args e = .ok true) :
    denG S d lg (subst (args.zip (mulVals args)) e) 0 0
      = S.cst "alpha#" * denG S d lg (subst (args.zip (freshList "l#" args)) e) 0 0 :=
  homogeneous_sound S d lg args e hh
    (reevalSound_opfree S d lg args _ e hargs (mulVals_opfree args hargs) he).1
    (reevalSound_opfree S d lg args _ e hargs (freshList_opfree _ args hargs) he).1

end Sympde.Linear

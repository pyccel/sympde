/-
  The rewriting rules of sympde/calculus/core.py as identities of the classical semantics
  `denG` (Sem/DenG.lean), valid in every differential ring; syntactically scalar expressions
  (`Scal`), numbers, and the values of `Add(*xs)` / `Mul(*xs)` nodes.
-/
import SympdeModel.Sem.DenG
import SympdeModel.Lemmas.PDeriv
import SympdeModel.Lemmas.ExprInd
import SympdeModel.Model.Calc
namespace Sympde
open E
open DRing (sumN sumN_add sumN_mul_left sumN_congr sumN_zero)

variable {K : Type} [CommRing K] [Algebra ℚ K]
variable (S : DRing K) (d : Nat) (lg : Bool)

/-- a value that does not depend on the component indices (what a scalar expression denotes) -/
def IndexFree (S : DRing K) (d : Nat) (lg : Bool) (e : E) : Prop :=
  ∀ i j, denG S d lg e i j = denG S d lg e 0 0

theorem Di_add (i : Nat) (a b : K) : Di S lg i (a + b) = Di S lg i a + Di S lg i b :=
  S.D_add _ a b

theorem Di_mul (i : Nat) (a b : K) :
    Di S lg i (a * b) = a * Di S lg i b + Di S lg i a * b := S.D_mul _ a b

theorem Di_comm (i j : Nat) (a : K) :
    Di S lg i (Di S lg j a) = Di S lg j (Di S lg i a) := S.D_comm _ _ a

theorem Di_zero (i : Nat) : Di S lg i 0 = 0 := S.D_zero _

theorem Di_one (i : Nat) : Di S lg i 1 = 0 := S.D_one _

theorem Di_neg (S : DRing K) (lg : Bool) (i : Nat) (a : K) : Di S lg i (-a) = - Di S lg i a := S.D_neg _ a

theorem Di_sub (i : Nat) (a b : K) : Di S lg i (a - b) = Di S lg i a - Di S lg i b :=
  S.D_sub _ a b

theorem Di_sumN (S : DRing K) (lg : Bool) (i d : Nat) (f : Nat → K) :
    Di S lg i (sumN d f) = sumN d (fun k => Di S lg i (f k)) := S.D_sumN _ d f

theorem Di_smul (k : Nat) (c x : K) (hc : Di S lg k c = 0) :
    Di S lg k (c * x) = c * Di S lg k x := by
  rw [Di_mul, hc]; ring

theorem sumN_sub {K : Type} [CommRing K] (d : Nat) (f g : Nat → K) :
    sumN d (fun i => f i - g i) = sumN d f - sumN d g := by
  induction d with
  | zero => simp [sumN]
  | succ n ih => simp only [sumN, ih]; ring

theorem sumN_mul_right {K : Type} [CommRing K] (d : Nat) (a : K) (f : Nat → K) :
    sumN d (fun i => f i * a) = sumN d f * a := by
  induction d with
  | zero => simp [sumN]
  | succ n ih => simp only [sumN, ih]; ring

theorem sumN_comm {K : Type} [CommRing K] (d e : Nat) (f : Nat → Nat → K) :
    sumN d (fun i => sumN e (fun j => f i j)) = sumN e (fun j => sumN d (fun i => f i j)) := by
  induction d with
  | zero => simp [sumN, sumN_zero]
  | succ n ih =>
    simp only [sumN, ih]
    rw [← sumN_add]

/-! ### curl ∘ grad = 0,  div ∘ curl = 0 -/

/-- curl(grad a) = 0 whatever the rank of `a` (only the components (·,0) of the gradient are read) -/
theorem curl_grad_any (a : E) (i j : Nat) :
    denG S d lg (op1 .curl (op1 .grad a)) i j = 0 := by
  have hg : ∀ k, denG S d lg (op1 .grad a) k 0 = Di S lg k (denG S d lg a 0 0) := by
    intro k; simp only [denG]; split <;> rfl
  simp only [denG] at hg ⊢
  simp only [hg]
  split
  · split <;> (rw [Di_comm]; ring)
  · rw [Di_comm]; ring

/-- curl(grad f) = 0, in 3D (component-wise) and in 2D -/
theorem curl_grad_zero (S : DRing K) (d : Nat) (lg : Bool) (f : E) (hf : rank d f = 0) (i j : Nat) :
    denG S d lg (op1 .curl (op1 .grad f)) i j = 0 := by
  -- `hf` is not needed
  exact (fun _ => curl_grad_any S d lg f i j) hf

/-- div(curl F) = 0 in 3D -/
theorem div_curl_zero (S : DRing K) (lg : Bool) (F : E) (i j : Nat) :
    denG S 3 lg (op1 .div (op1 .curl F)) i j = 0 := by
  have hr : rank 3 (op1 .curl F) = 1 := by simp [rank]
  simp only [denG, hr, if_true, sumN, Di_sub]
  rw [Di_comm S lg 0 1, Di_comm S lg 0 2, Di_comm S lg 1 2]
  ring

/-! ### product rules -/

theorem div_mul_value (a : K) (F : Nat → K) :
    sumN d (fun k => Di S lg k (a * F k))
      = a * sumN d (fun k => Di S lg k (F k)) + sumN d (fun k => F k * Di S lg k a) := by
  rw [← sumN_mul_left, ← sumN_add]
  apply sumN_congr
  intro k _
  rw [Di_mul]; ring

/-- div(f F) = f div F + F · grad f (`f` scalar, `F` vector) -/
theorem div_scalar_mul (S : DRing K) (d : Nat) (lg : Bool) (f F : E)
    (hf : rank d f = 0) (hF : rank d F = 1) (hfree : IndexFree S d lg f) (i j : Nat) :
    denG S d lg (op1 .div (mul [f, F])) i j
      = denG S d lg (add [mul [f, op1 .div F], op2 .dot F (op1 .grad f)]) i j := by
  have hr : rank d (mul [f, F]) = 1 := by simp [rank, rankMax, hf, hF]
  have hg : rank d (op1 .grad f) = 1 := by simp [rank, hf]
  have h3 : ¬ ((1 : Nat) = 2) := by decide
  simp only [denG, denGSum, denGProd, hr, hF, hf, hg, h3, if_true, if_false, mul_one, add_zero]
  rw [hfree i j]
  simp only [hfree _ 0]
  exact div_mul_value S d lg _ _

/-- grad(f g) = f grad g + g grad f -/
theorem grad_mul (S : DRing K) (d : Nat) (lg : Bool) (f g : E)
    (hf : rank d f = 0) (hg : rank d g = 0)
    (hff : IndexFree S d lg f) (hgf : IndexFree S d lg g) (i j : Nat) :
    denG S d lg (op1 .grad (mul [f, g])) i j
      = denG S d lg (add [mul [f, op1 .grad g], mul [op1 .grad f, g]]) i j := by
  have hr : rank d (mul [f, g]) = 0 := by simp [rank, rankMax, hf, hg]
  simp only [denG, denGSum, denGProd, hr, hf, hg, if_true, mul_one, add_zero]
  rw [Di_mul, hff i j, hgf i j]

/-- laplace(f g) = f laplace g + g laplace f + 2 grad f · grad g -/
theorem laplace_mul (S : DRing K) (d : Nat) (lg : Bool) (f g : E)
    (hf : rank d f = 0) (hg : rank d g = 0)
    (hff : IndexFree S d lg f) (hgf : IndexFree S d lg g) (i j : Nat) :
    denG S d lg (op1 .laplace (mul [f, g])) i j
      = denG S d lg (add [mul [f, op1 .laplace g], mul [g, op1 .laplace f],
          mul [num 2 1, op2 .dot (op1 .grad f) (op1 .grad g)]]) i j := by
  have hgf' : rank d (op1 .grad f) = 1 := by simp [rank, hf]
  have hgg' : rank d (op1 .grad g) = 1 := by simp [rank, hg]
  have h3 : ¬ ((1 : Nat) = 2) := by decide
  simp only [denG, denGSum, denGProd, hf, hg, hgf', hgg', h3, if_true, if_false, mul_one, add_zero]
  rw [hff i j, hgf i j]
  have : ∀ k, Di S lg k (Di S lg k (denG S d lg f 0 0 * denG S d lg g 0 0))
      = denG S d lg f 0 0 * Di S lg k (Di S lg k (denG S d lg g 0 0))
        + denG S d lg g 0 0 * Di S lg k (Di S lg k (denG S d lg f 0 0))
        + 2 * (Di S lg k (denG S d lg f 0 0) * Di S lg k (denG S d lg g 0 0)) := by
    intro k
    rw [Di_mul, Di_add, Di_mul, Di_mul]; ring
  simp only [this, sumN_add, sumN_mul_left]
  have h2 : algebraMap ℚ K (((2 : ℤ) : ℚ) / ((1 : ℕ) : ℚ)) = 2 := by
    simp
    exact map_ofNat (algebraMap ℚ K) 2
  rw [h2]
  ring

/-! ### the values of sums and products -/

theorem denGSum_eq (as : List E) (i j : Nat) :
    denGSum S d lg as i j = (as.map (fun a => denG S d lg a i j)).sum := by
  induction as with
  | nil => rfl
  | cons a as ih => simp only [denGSum, List.map, List.sum_cons, ih]

theorem denGProd_eq (as : List E) (i j : Nat) :
    denGProd S d lg as i j = (as.map (fun a => denG S d lg a i j)).prod := by
  induction as with
  | nil => rfl
  | cons a as ih => simp only [denGProd, List.map, List.prod_cons, ih]

theorem denGSum_congr (as : List E) (i j i' j' : Nat)
    (h : ∀ a ∈ as, denG S d lg a i j = denG S d lg a i' j') :
    denGSum S d lg as i j = denGSum S d lg as i' j' := by
  rw [denGSum_eq, denGSum_eq, List.map_congr_left h]

theorem denGProd_congr (as : List E) (i j i' j' : Nat)
    (h : ∀ a ∈ as, denG S d lg a i j = denG S d lg a i' j') :
    denGProd S d lg as i j = denGProd S d lg as i' j' := by
  rw [denGProd_eq, denGProd_eq, List.map_congr_left h]

theorem denGSum_append (xs ys : List E) (i j : Nat) :
    denGSum S d lg (xs ++ ys) i j = denGSum S d lg xs i j + denGSum S d lg ys i j := by
  simp only [denGSum_eq, List.map_append, List.sum_append]

theorem denGProd_append (xs ys : List E) (i j : Nat) :
    denGProd S d lg (xs ++ ys) i j = denGProd S d lg xs i j * denGProd S d lg ys i j := by
  simp only [denGProd_eq, List.map_append, List.prod_append]

omit [Algebra ℚ K] in
theorem sum_map_filter {α : Type} (p : α → Bool) (X : α → K) (as : List α) :
    (as.map X).sum = ((as.filter p).map X).sum + ((as.filter (fun a => !p a)).map X).sum := by
  induction as with
  | nil => simp
  | cons a as ih =>
    simp only [List.map, List.sum_cons, List.filter]
    cases hp : p a <;> simp [ih] <;> ring

omit [Algebra ℚ K] in
theorem prod_map_filter {α : Type} (p : α → Bool) (X : α → K) (as : List α) :
    (as.map X).prod = ((as.filter p).map X).prod * ((as.filter (fun a => !p a)).map X).prod := by
  induction as with
  | nil => simp
  | cons a as ih =>
    simp only [List.map, List.prod_cons, List.filter]
    cases hp : p a <;> simp [ih] <;> ring

theorem denGSum_filter (p : E → Bool) (as : List E) (i j : Nat) :
    denGSum S d lg as i j
      = denGSum S d lg (as.filter p) i j + denGSum S d lg (as.filter (fun a => !p a)) i j := by
  simp only [denGSum_eq]; exact sum_map_filter p _ as

theorem denGProd_filter (p : E → Bool) (as : List E) (i j : Nat) :
    denGProd S d lg as i j
      = denGProd S d lg (as.filter p) i j * denGProd S d lg (as.filter (fun a => !p a)) i j := by
  simp only [denGProd_eq]; exact prod_map_filter p _ as

theorem denG_zero (i j : Nat) : denG S d lg E.zero i j = 0 := by
  simp [denG, E.zero]

theorem denG_one (i j : Nat) : denG S d lg E.one i j = 1 := by
  simp [denG, E.one]

theorem mulOf_cases {P : E → Prop} (l : List E) (h1 : P E.one) (h2 : ∀ a ∈ l, P a)
    (h3 : ∀ a b rest, l = a :: b :: rest → P (mul l)) : P (Calc.mulOf l) := by
  match l, h2, h3 with
  | [], _, _ => exact h1
  | [a], h2, _ => exact h2 a (List.mem_singleton.mpr rfl)
  | a :: b :: rest, _, h3 => exact h3 a b rest rfl

theorem addOf_cases {P : E → Prop} (l : List E) (h1 : P E.zero) (h2 : ∀ a ∈ l, P a)
    (h3 : ∀ a b rest, l = a :: b :: rest → P (add l)) : P (Calc.addOf l) := by
  match l, h2, h3 with
  | [], _, _ => exact h1
  | [a], h2, _ => exact h2 a (List.mem_singleton.mpr rfl)
  | a :: b :: rest, _, h3 => exact h3 a b rest rfl

theorem denG_mulOf (as : List E) (i j : Nat) :
    denG S d lg (Calc.mulOf as) i j = denGProd S d lg as i j := by
  match as with
  | [] => exact denG_one S d lg i j
  | [a] => simp [Calc.mulOf, PD.mulOf, denGProd]
  | a :: b :: rest => simp [Calc.mulOf, PD.mulOf, denG]

theorem denG_addOf (as : List E) (i j : Nat) :
    denG S d lg (Calc.addOf as) i j = denGSum S d lg as i j := by
  match as with
  | [] => exact denG_zero S d lg i j
  | [a] => simp [Calc.addOf, denGSum]
  | a :: b :: rest => simp [Calc.addOf, denG]

theorem denG_mul2 (x y : E) (i j : Nat) :
    denG S d lg (mul [x, y]) i j = denG S d lg x i j * denG S d lg y i j := by
  simp only [denG, denGProd, mul_one]

theorem denG_mul3 (x y z : E) (i j : Nat) :
    denG S d lg (mul [x, y, z]) i j = denG S d lg x i j * (denG S d lg y i j * denG S d lg z i j) := by
  simp only [denG, denGProd, mul_one]

theorem denG_add2 (x y : E) (i j : Nat) :
    denG S d lg (add [x, y]) i j = denG S d lg x i j + denG S d lg y i j := by
  simp only [denG, denGSum, add_zero]

/-! ### syntactically scalar, well-typed expressions -/

mutual
def Scal (d : Nat) : E → Bool
  | num _ _ => true
  | cst _ => true
  | sym _ => true
  | sf _ _ => true
  | idx (vf _ _) _ => true
  | add as => ScalList d as
  | mul as => ScalList d as
  | pow b e => Scal d b && Scal d e
  | fn _ a => Scal d a
  | pd _ a => Scal d a
  | op1 .div a => rank d a == 1
  | op1 .laplace a => Scal d a
  | op1 .curl _ => d != 3
  | op2 .dot a b => rank d a != 2 && rank d b != 2
  | op2 .inner _ _ => true
  | op2 .bracket _ _ => true
  | op2 .cross _ _ => d != 3
  | _ => false
def ScalList (d : Nat) : List E → Bool
  | [] => true
  | a :: as => Scal d a && ScalList d as
end

theorem ScalList_iff (as : List E) : ScalList d as = true ↔ ∀ a ∈ as, Scal d a = true := by
  induction as with
  | nil => simp [ScalList]
  | cons a as ih => simp [ScalList, ih]

theorem Scal_add (as : List E) : Scal d (add as) = true ↔ ∀ a ∈ as, Scal d a = true := by
  rw [Scal]; exact ScalList_iff d as

theorem Scal_mul (as : List E) : Scal d (mul as) = true ↔ ∀ a ∈ as, Scal d a = true := by
  rw [Scal]; exact ScalList_iff d as

theorem Scal_pow (b e : E) : Scal d (pow b e) = true ↔ Scal d b = true ∧ Scal d e = true := by
  rw [Scal, Bool.and_eq_true]

theorem Scal_mulOf (l : List E) (h : ∀ a ∈ l, Scal d a = true) :
    Scal d (Calc.mulOf l) = true :=
  mulOf_cases (P := fun e => Scal d e = true) l rfl h (fun _ _ _ _ => (Scal_mul d l).mpr h)

theorem Scal_addOf (l : List E) (h : ∀ a ∈ l, Scal d a = true) :
    Scal d (Calc.addOf l) = true :=
  addOf_cases (P := fun e => Scal d e = true) l rfl h (fun _ _ _ _ => (Scal_add d l).mpr h)

theorem rankMax_zero (as : List E) (h : ∀ a ∈ as, rank d a = 0) : rankMax d as = 0 := by
  induction as with
  | nil => simp [rankMax]
  | cons a as ih =>
    simp [rankMax, h a (by simp), ih (fun x hx => h x (by simp [hx]))]

theorem Scal_rank (e : E) (h : Scal d e = true) : rank d e = 0 := by
  induction e using E.induction with
  | add as ih =>
    cases as with
    | nil => rfl
    | cons a as =>
      simp only [rank, rankHead]
      exact ih a (by simp) ((Scal_add d _).mp h a (by simp))
  | mul as ih =>
    simp only [rank]
    exact rankMax_zero d as (fun a ha => ih a ha ((Scal_mul d as).mp h a ha))
  | pd c a iha => simp only [Scal] at h; simp only [rank]; exact iha h
  | op1 o a iha =>
    cases o with
    | curl => simp only [Scal, bne_iff_ne, ne_eq] at h; simp [rank, h]
    | div => simp only [Scal, beq_iff_eq] at h; simp [rank, h]
    | laplace => simp only [Scal] at h; simp only [rank]; exact iha h
    | _ => exact Bool.noConfusion h
  | op2 o a b _ _ =>
    cases o with
    | dot => simp only [Scal, Bool.and_eq_true, bne_iff_ne, ne_eq] at h; simp [rank, h.1, h.2]
    | cross => simp only [Scal, bne_iff_ne, ne_eq] at h; simp [rank, h]
    | inner => rfl
    | bracket => rfl
    | _ => exact Bool.noConfusion h
  | vf n k => exact Bool.noConfusion h
  | mat r c es _ => exact Bool.noConfusion h
  | tup as _ => exact Bool.noConfusion h
  | normal k => exact Bool.noConfusion h
  | other t as _ => exact Bool.noConfusion h
  | _ => rfl

theorem Scal_free (e : E) (h : Scal d e = true) :
    IndexFree S d lg e := by
  induction e using E.induction with
  | add as ih =>
    intro i j
    simp only [denG]
    exact denGSum_congr S d lg as i j 0 0 (fun a ha => ih a ha ((Scal_add d as).mp h a ha) i j)
  | mul as ih =>
    intro i j
    simp only [denG]
    exact denGProd_congr S d lg as i j 0 0 (fun a ha => ih a ha ((Scal_mul d as).mp h a ha) i j)
  | pow b e ihb ihe =>
    intro i j
    simp only [denG]
    rw [ihb ((Scal_pow d b e).mp h).1 i j, ihe ((Scal_pow d b e).mp h).2 i j]
  | fn f a iha => intro i j; simp only [Scal] at h; simp only [denG]; rw [iha h i j]
  | pd c a iha => intro i j; simp only [Scal] at h; simp only [denG]; rw [iha h i j]
  | op1 o a iha =>
    cases o with
    | curl => simp only [Scal, bne_iff_ne, ne_eq] at h; intro i j; simp [denG, h]
    | div => simp only [Scal, beq_iff_eq] at h; intro i j; simp [denG, h]
    | laplace => intro i j; simp only [Scal] at h; simp only [denG]; rw [iha h i j]
    | _ => exact Bool.noConfusion h
  | op2 o a b _ _ =>
    cases o with
    | dot =>
      simp only [Scal, Bool.and_eq_true, bne_iff_ne, ne_eq] at h
      intro i j; simp [denG, h.1, h.2]
    | cross => simp only [Scal, bne_iff_ne, ne_eq] at h; intro i j; simp [denG, h]
    | inner => intro i j; simp [denG]
    | bracket => intro i j; simp [denG]
    | _ => exact Bool.noConfusion h
  | vf n k => exact Bool.noConfusion h
  | mat r c es _ => exact Bool.noConfusion h
  | tup as _ => exact Bool.noConfusion h
  | normal k => exact Bool.noConfusion h
  | other t as _ => exact Bool.noConfusion h
  | _ => intro i j; simp only [denG]

theorem denGProd_scal_free (l : List E)
    (h : ∀ x ∈ l, Scal d x = true) (i j : Nat) :
    denGProd S d lg l i j = denGProd S d lg l 0 0 :=
  denGProd_congr S d lg l i j 0 0 (fun x hx => Scal_free S d lg x (h x hx) i j)

theorem denG_grad_scal (x : E) (hx : Scal d x = true)
    (i j : Nat) : denG S d lg (op1 .grad x) i j = Di S lg i (denG S d lg x 0 0) := by
  simp [denG, Scal_rank d x hx]

/-! ### side conditions over `denG`, numbers -/

mutual
/-- bases of negative-literal or non-literal powers are invertible (by `S.inv`) -/
def NonDegG (S : DRing K) (d : Nat) (lg : Bool) : E → Prop
  | pow b e =>
      (match PD.intLit e with
        | some (Int.ofNat _) => True
        | _ => ∀ i j, denG S d lg b i j * S.inv (denG S d lg b i j) = 1) ∧
      NonDegG S d lg b ∧ NonDegG S d lg e
  | add as => NonDegGList S d lg as
  | mul as => NonDegGList S d lg as
  | fn _ a => NonDegG S d lg a
  | _ => True
def NonDegGList (S : DRing K) (d : Nat) (lg : Bool) : List E → Prop
  | [] => True
  | a :: as => NonDegG S d lg a ∧ NonDegGList S d lg as
end

theorem NonDegGList_iff (as : List E) :
    NonDegGList S d lg as ↔ ∀ a ∈ as, NonDegG S d lg a := by
  induction as with
  | nil => simp [NonDegGList]
  | cons a as ih => simp [NonDegGList, ih]

theorem NonDegG_add (as : List E) :
    NonDegG S d lg (add as) ↔ ∀ a ∈ as, NonDegG S d lg a := by
  rw [NonDegG]; exact NonDegGList_iff S d lg as

theorem NonDegG_mul (as : List E) :
    NonDegG S d lg (mul as) ↔ ∀ a ∈ as, NonDegG S d lg a := by
  rw [NonDegG]; exact NonDegGList_iff S d lg as

theorem NonDegG_addOf (l : List E)
    (h : ∀ a ∈ l, NonDegG S d lg a) : NonDegG S d lg (Calc.addOf l) :=
  addOf_cases (P := NonDegG S d lg) l (by simp [NonDegG, E.zero]) h
    (fun _ _ _ _ => (NonDegG_add S d lg l).mpr h)

theorem D_powSem_rpow (c : Coord) (b ev : K) (e : E) (hl : PD.intLit e = none) :
    S.D c (powSem S b e ev) = (S.fn "log" b * S.D c ev + ev * S.D c b * S.inv b) * S.rpow b ev := by
  unfold powSem; rw [hl]; exact S.D_rpow c b ev

omit [Algebra ℚ K] in
theorem D_list_sum_zero (δ : K → K) (h0 : δ 0 = 0) (hadd : ∀ x y, δ (x + y) = δ x + δ y)
    (l : List K) (h : ∀ x ∈ l, δ x = 0) : δ l.sum = 0 := by
  induction l with
  | nil => exact h0
  | cons x xs ih =>
    rw [List.sum_cons, hadd, h x (by simp), ih (fun y hy => h y (by simp [hy])), add_zero]

omit [Algebra ℚ K] in
theorem D_list_prod_zero (δ : K → K) (h1 : δ 1 = 0) (hmul : ∀ x y, δ (x * y) = x * δ y + δ x * y)
    (l : List K) (h : ∀ x ∈ l, δ x = 0) : δ l.prod = 0 := by
  induction l with
  | nil => exact h1
  | cons x xs ih =>
    rw [List.prod_cons, hmul, h x (by simp), ih (fun y hy => h y (by simp [hy]))]
    ring

theorem D_denGProd_zero (c : Coord) (as : List E) (i j : Nat)
    (h : ∀ a ∈ as, S.D c (denG S d lg a i j) = 0) : S.D c (denGProd S d lg as i j) = 0 := by
  rw [denGProd_eq]
  refine D_list_prod_zero (S.D c) (S.D_one c) (S.D_mul c) _ ?_
  intro x hx
  obtain ⟨a, ha, rfl⟩ := List.mem_map.mp hx
  exact h a ha

theorem DG_isNumber (c : Coord) (e : E)
    (hn : PD.isNumber e = true) (hnd : NonDegG S d lg e) :
    ∀ i j, S.D c (denG S d lg e i j) = 0 := by
  induction e using E.induction with
  | num p q => intro i j; simp [denG, S.D_rat]
  | cst s => intro i j; simp [denG, S.D_cst]
  | add as ih =>
    intro i j
    simp only [PD.isNumber, allNumber_iff, List.all_eq_true] at hn
    simp only [denG]
    rw [denGSum_eq]
    refine D_list_sum_zero (S.D c) (S.D_zero c) (S.D_add c) _ ?_
    intro x hx
    obtain ⟨a, ha, rfl⟩ := List.mem_map.mp hx
    exact ih a ha (hn a ha) ((NonDegG_add S d lg as).mp hnd a ha) i j
  | mul as ih =>
    intro i j
    simp only [PD.isNumber, allNumber_iff, List.all_eq_true] at hn
    simp only [denG]
    exact D_denGProd_zero S d lg c as i j
      (fun a ha => ih a ha (hn a ha) ((NonDegG_mul S d lg as).mp hnd a ha) i j)
  | pow b e ihb ihe =>
    intro i j
    simp only [PD.isNumber, Bool.and_eq_true] at hn
    simp only [NonDegG] at hnd
    simp only [denG]
    cases hl : PD.intLit e with
    | some n =>
      rw [D_powSem_int S c _ e _ n hl, ihb hn.1 hnd.2.1 i j]
      · simp
      · intro m hm
        have := hnd.1
        rw [hl, hm] at this
        exact this i j
    | none =>
      rw [D_powSem_rpow S c _ _ e hl, ihb hn.1 hnd.2.1 i j, ihe hn.2 hnd.2.2 i j]
      simp
  | fn f a iha =>
    intro i j
    simp only [PD.isNumber] at hn
    simp only [NonDegG] at hnd
    simp only [denG, S.D_fn, iha hn hnd i j]
    simp
  | _ => exact Bool.noConfusion hn

theorem DG_prod_numbers (c : Coord) (as : List E)
    (h : ∀ a ∈ as, PD.isNumber a = true) (hnd : ∀ a ∈ as, NonDegG S d lg a) (i j : Nat) :
    S.D c (denGProd S d lg as i j) = 0 :=
  D_denGProd_zero S d lg c as i j (fun a ha => DG_isNumber S d lg c a (h a ha) (hnd a ha) i j)

theorem isNumber_Scal (e : E) (h : PD.isNumber e = true) : Scal d e = true := by
  induction e using E.induction with
  | add as ih =>
    simp only [PD.isNumber, allNumber_iff, List.all_eq_true] at h
    exact (Scal_add d as).mpr (fun a ha => ih a ha (h a ha))
  | mul as ih =>
    simp only [PD.isNumber, allNumber_iff, List.all_eq_true] at h
    exact (Scal_mul d as).mpr (fun a ha => ih a ha (h a ha))
  | pow b e ihb ihe =>
    simp only [PD.isNumber, Bool.and_eq_true] at h
    exact (Scal_pow d b e).mpr ⟨ihb h.1, ihe h.2⟩
  | fn f a iha =>
    simp only [PD.isNumber] at h
    simp only [Scal]
    exact iha h
  | num p q => rfl
  | cst s => rfl
  | _ => exact Bool.noConfusion h

end Sympde

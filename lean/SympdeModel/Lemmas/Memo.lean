/-
  For the memoisation model (Model/Memo.lean): the table stays consistent under execution; and the
  list of identity-table rows that are *known* to leak (they correspond to the open findings of C12 in
  known_findings.json; `Props/C12.lean` decides that the table regenerated from the live classes
  leaks exactly there).
-/
import SympdeModel.Model.Memo
import SympdeModel.Lemmas.Union
namespace Sympde
namespace Memo

section
variable {φ κ α ρ : Type} [DecidableEq φ] [DecidableEq κ]

/-- the function reads nothing beyond the key -/
def KeyDetermined (key : α → κ) (F : φ → α → ρ) : Prop :=
  ∀ f o₁ o₂, key o₁ = key o₂ → F f o₁ = F f o₂

/-- every stored value is the function's value on some object with that key -/
def Consistent (key : α → κ) (F : φ → α → ρ) (t : List ((φ × κ) × ρ)) : Prop :=
  ∀ e ∈ t, ∃ o : α, key o = e.1.2 ∧ F e.1.1 o = e.2

theorem lookup_mem (t : List ((φ × κ) × ρ)) (k : φ × κ) (r : ρ) (h : lookup t k = some r) :
    (k, r) ∈ t := by
  induction t with
  | nil => simp [lookup] at h
  | cons e rest ih =>
    simp only [lookup] at h
    split at h
    · rename_i he
      cases h
      rw [← he]; simp
    · exact List.mem_cons_of_mem _ (ih h)

theorem consistent_step (key : α → κ) (F : φ → α → ρ) (s : State φ κ ρ) (op : Op φ α)
    (h : Consistent key F s.table) : Consistent key F (step key F s op).1.table := by
  cases op with
  | call f o =>
    simp only [step]
    split
    · split
      · exact h
      · intro e he
        rcases List.mem_cons.mp he with rfl | he
        · exact ⟨o, rfl, rfl⟩
        · exact h e he
    · exact h
  | clear => intro e he; cases he
  | cacheOff => exact h
  | cacheOn => exact h

theorem consistent_exec (key : α → κ) (F : φ → α → ρ) (s : State φ κ ρ) (ops : List (Op φ α))
    (h : Consistent key F s.table) : Consistent key F (exec key F s ops).table := by
  induction ops generalizing s with
  | nil => exact h
  | cons op ops ih => exact ih _ (consistent_step key F s op h)

end

/-! ### the identity table seen as a statement about field-parametric functions -/

/-- the attribute takes part in the cache key (some row says: instances differing there are told apart) -/
def InKey (t : List Row) (a : String) : Prop := ∃ r ∈ t, r.attr = a ∧ (r.eq && r.hashEq) = false

/-- the table says that entry point `f` reads attribute `a` -/
def Reads (t : List Row) (f a : String) : Prop := ∃ r ∈ t, r.attr = a ∧ f ∈ r.reads

/-- rows of the regenerated identity table that are known to leak (open findings of C12) -/
def Known.leaks : List Row := [
  ⟨"Domain", "dim", true, true, ["dom_grad", "dom_form"]⟩,
  ⟨"ScalarFunctionSpace", "dim", true, true, ["sp_grad"]⟩,
  ⟨"ScalarFunction", "dim", true, true, ["fn_terminal"]⟩
]

end Memo
end Sympde

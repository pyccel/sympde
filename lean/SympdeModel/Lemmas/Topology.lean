/-
  What `Domain.join` computes under the hygiene of C13: when the patch names are pairwise different, `Face.same` is
  equality on the faces of the patches, so a Union loses nothing and only reorders; when no key is written twice, a
  dictionary is the list of what was written.  The joined domain is then the list of declared connections together
  with the complementary faces.  The lattice layouts (`Grid`) meet these hypotheses.
-/
import Mathlib.Data.List.Nodup
import Mathlib.Data.List.Perm.Subperm
import Mathlib.Data.List.Forall2
import SympdeModel.Model.Topology
namespace Sympde.Topo

/-! ### the `Except` monad: a `do` block succeeds exactly when every step does -/

theorem bind_eq_ok {ε α β : Type} (x : Except ε α) (f : α → Except ε β) (b : β) :
    (x >>= f) = .ok b ↔ ∃ a, x = .ok a ∧ f a = .ok b := by
  cases x <;> simp [bind, Except.bind]

/-- `if c then throw e; x` -/
theorem ite_throw_eq_ok {ε α : Type} (c : Prop) [Decidable c] (e : ε) (x : Except ε α) (r : α) :
    (if c then (Except.error e >>= fun (_ : PUnit) => x) else x) = .ok r ↔ ¬c ∧ x = .ok r := by
  split <;> simp [*, bind, Except.bind]

/-! ### Union = dedup + stable insertion sort -/

theorem insertBy_perm {α : Type} (key : α → String) (x : α) (l : List α) :
    (insertBy key x l).Perm (x :: l) := by
  induction l with
  | nil => simp [insertBy]
  | cons y ys ih =>
    simp only [insertBy]
    split
    · exact (List.Perm.cons y ih).trans (List.Perm.swap x y ys)
    · exact List.Perm.refl _

theorem sortBy_perm {α : Type} (key : α → String) (l : List α) : (sortBy key l).Perm l := by
  induction l with
  | nil => simp [sortBy]
  | cons x xs ih => exact (insertBy_perm key x _).trans (List.Perm.cons x ih)

theorem dedupBy_sublist {α : Type} (same : α → α → Bool) (l : List α) : (dedupBy same l).Sublist l := by
  induction l with
  | nil => simp [dedupBy]
  | cons x xs ih => exact List.Sublist.cons_cons x ((List.filter_sublist).trans ih)

theorem dedupBy_pairwise {α : Type} (same : α → α → Bool) (l : List α) :
    (dedupBy same l).Pairwise (fun a b => same a b = false) := by
  induction l with
  | nil => simp [dedupBy]
  | cons x xs ih =>
    rw [dedupBy, List.pairwise_cons]
    exact ⟨fun y hy => by simpa using (List.mem_filter.mp hy).2, ih.sublist List.filter_sublist⟩

theorem dedupBy_eq_self {α : Type} (same : α → α → Bool) (l : List α)
    (h : l.Pairwise (fun a b => same a b = false)) : dedupBy same l = l := by
  induction l with
  | nil => simp [dedupBy]
  | cons x xs ih =>
    rw [List.pairwise_cons] at h
    rw [dedupBy, ih h.2, List.filter_eq_self.mpr fun y hy => by simp [h.1 y hy]]

theorem unionBy_perm {α : Type} (key : α → String) (same : α → α → Bool) (l : List α)
    (h : l.Pairwise (fun a b => same a b = false)) : (unionBy key same l).Perm l := by
  rw [unionBy, dedupBy_eq_self same l h]
  exact sortBy_perm key l

theorem mem_unionBy_of {α : Type} (key : α → String) (same : α → α → Bool) (l : List α) (x : α)
    (h : x ∈ unionBy key same l) : x ∈ l :=
  (dedupBy_sublist same l).subset ((sortBy_perm key _).subset h)

theorem unionBy_nodup {α : Type} (key : α → String) (same : α → α → Bool) (hrefl : ∀ a, same a a = true)
    (l : List α) : (unionBy key same l).Nodup :=
  (sortBy_perm key _).nodup_iff.mpr
    ((dedupBy_pairwise same l).imp fun {a b} h e => by subst e; rw [hrefl] at h; cases h)

theorem mem_dedupBy {α : Type} (same : α → α → Bool) (l : List α)
    (hinj : ∀ a ∈ l, ∀ b ∈ l, same a b = true → a = b) (x : α) : x ∈ dedupBy same l ↔ x ∈ l := by
  refine ⟨fun h => (dedupBy_sublist same l).subset h, fun hx => ?_⟩
  induction l with
  | nil => cases hx
  | cons y ys ih =>
    rw [dedupBy, List.mem_cons, List.mem_filter]
    by_cases hxy : x = y
    · exact Or.inl hxy
    · have hx' : x ∈ ys := (List.mem_cons.mp hx).resolve_left hxy
      refine Or.inr ⟨ih (fun a ha b hb => hinj a (List.mem_cons_of_mem _ ha) b (List.mem_cons_of_mem _ hb)) hx', ?_⟩
      cases hs : same y x with
      | false => rfl
      | true => exact absurd (hinj y (by simp) x hx hs).symm hxy

theorem mem_unionBy {α : Type} (key : α → String) (same : α → α → Bool) (l : List α)
    (hinj : ∀ a ∈ l, ∀ b ∈ l, same a b = true → a = b) (x : α) :
    x ∈ unionBy key same l ↔ x ∈ l :=
  (sortBy_perm key _).mem_iff.trans (mem_dedupBy same l hinj x)

/-! ### names -/

def NamesOk (ps : List Patch) : Prop := (ps.map Patch.name).Nodup

instance (ps : List Patch) : Decidable (NamesOk ps) := by unfold NamesOk; infer_instance

theorem NamesOk.nodup {ps : List Patch} (h : NamesOk ps) : ps.Nodup := List.Nodup.of_map _ h

theorem NamesOk.inj {ps : List Patch} (h : NamesOk ps) {p q : Patch} (hp : p ∈ ps) (hq : q ∈ ps)
    (e : p.name = q.name) : p = q := List.inj_on_of_nodup_map h hp hq e

theorem NamesOk.pairwise {ps : List Patch} (h : NamesOk ps) :
    ps.Pairwise (fun a b => Patch.same a b = false) := by
  unfold NamesOk at h
  rw [List.Nodup, List.pairwise_map] at h
  exact h.imp (by intro a b hab; simpa [Patch.same] using hab)

theorem unionPatches_perm {ps : List Patch} (h : NamesOk ps) : (unionPatches ps).Perm ps :=
  unionBy_perm _ _ _ h.pairwise

/-! ### faces of an n-cube -/

theorem mem_facesFrom (p : Patch) (n : Nat) (f : Face) :
    f ∈ facesFrom p n ↔ f.patch = p ∧ f.axis < n ∧ (f.ext = -1 ∨ f.ext = 1) := by
  induction n with
  | zero => simp [facesFrom]
  | succ n ih =>
    rcases f with ⟨q, a, e⟩
    simp only [facesFrom, List.mem_append, ih, List.mem_cons, Face.mk.injEq, List.not_mem_nil, or_false]
    by_cases hq : q = p <;> simp only [hq, true_and, false_and, or_false]
    omega

theorem mem_faces (p : Patch) (f : Face) :
    f ∈ p.faces ↔ f.patch = p ∧ f.axis < p.dim ∧ (f.ext = -1 ∨ f.ext = 1) := mem_facesFrom p p.dim f

theorem facesFrom_nodup (p : Patch) (n : Nat) : (facesFrom p n).Nodup := by
  induction n with
  | zero => simp [facesFrom]
  | succ n ih =>
    rw [facesFrom, List.nodup_append]
    refine ⟨ih, by simp, ?_⟩
    intro a ha b hb
    have := (mem_facesFrom p n a).mp ha
    simp only [List.mem_cons, List.not_mem_nil, or_false] at hb
    rcases hb with rfl | rfl <;> (intro e; subst e; simp at this)

theorem faces_nodup (p : Patch) : p.faces.Nodup := facesFrom_nodup p p.dim

def allFaces (ps : List Patch) : List Face := ps.flatMap Patch.faces

theorem mem_allFaces (ps : List Patch) (f : Face) :
    f ∈ allFaces ps ↔ f.patch ∈ ps ∧ f.axis < f.patch.dim ∧ (f.ext = -1 ∨ f.ext = 1) := by
  simp only [allFaces, List.mem_flatMap, mem_faces]
  exact ⟨fun ⟨p, hp, e, h⟩ => by subst e; exact ⟨hp, h⟩, fun ⟨h1, h⟩ => ⟨f.patch, h1, rfl, h⟩⟩

theorem allFaces_nodup {ps : List Patch} (h : ps.Nodup) : (allFaces ps).Nodup := by
  rw [allFaces, List.nodup_flatMap]
  refine ⟨fun p _ => faces_nodup p, h.imp ?_⟩
  intro a b hab f hfa hfb
  exact hab (((mem_faces a f).mp hfa).1.symm.trans ((mem_faces b f).mp hfb).1)

theorem partition_nodup {ps : List Patch} (hn : NamesOk ps) {b s : List Face} (h : (b ++ s).Perm (allFaces ps)) :
    b.Nodup ∧ s.Nodup ∧ ∀ f ∈ b, f ∉ s :=
  have h' := List.nodup_append.mp (h.nodup_iff.mpr (allFaces_nodup hn.nodup))
  ⟨h'.1, h'.2.1, fun f hb hs => h'.2.2 f hb f hs rfl⟩

theorem same_refl (f : Face) : f.same f = true := by simp [Face.same]

theorem same_iff_eq {ps : List Patch} (h : NamesOk ps) {f g : Face} (hf : f.patch ∈ ps) (hg : g.patch ∈ ps) :
    f.same g = true ↔ f = g := by
  refine ⟨fun hs => ?_, fun e => e ▸ same_refl f⟩
  simp only [Face.same, Bool.and_eq_true, beq_iff_eq] at hs
  have := h.inj hf hg hs.1.1
  cases f; cases g; simp_all

theorem pairwise_not_same_of_nodup {ps : List Patch} (hn : NamesOk ps) {l : List Face}
    (hl : ∀ f ∈ l, f.patch ∈ ps) (hnd : l.Nodup) : l.Pairwise (fun a b => Face.same a b = false) := by
  refine (List.Pairwise.and_mem.mp hnd).imp ?_
  rintro a b ⟨ha, hb, hne⟩
  exact Bool.eq_false_iff.mpr fun hs => hne ((same_iff_eq hn (hl a ha) (hl b hb)).mp hs)

theorem unionFaces_map_perm {qs : List Patch} (hq : NamesOk qs) {l : List Face} (g : Face → Face)
    (hg : ∀ f ∈ l, (g f).patch ∈ qs) (hinj : ∀ x ∈ l, ∀ y ∈ l, g x = g y → x = y) (hnd : l.Nodup) :
    (unionFaces (l.map g)).Perm (l.map g) :=
  unionBy_perm _ _ _ (pairwise_not_same_of_nodup hq (List.forall_mem_map.mpr hg) (List.Nodup.map_on hinj hnd))

theorem allFaces_pairwise_not_same {ps : List Patch} (h : NamesOk ps) :
    (allFaces ps).Pairwise (fun a b => Face.same a b = false) :=
  pairwise_not_same_of_nodup h (fun f hf => ((mem_allFaces ps f).mp hf).1) (allFaces_nodup h.nodup)

theorem boundary_perm (p : Patch) : p.boundary.Perm p.faces :=
  unionBy_perm _ _ _ (pairwise_not_same_of_nodup (ps := [p]) (by simp [NamesOk])
    (fun f hf => by simp [((mem_faces p f).mp hf).1]) (faces_nodup p))

theorem mem_boundary (p : Patch) (f : Face) : f ∈ p.boundary ↔ f ∈ p.faces := (boundary_perm p).mem_iff

theorem allBoundary_perm (ps : List Patch) : (ps.flatMap Patch.boundary).Perm (allFaces ps) :=
  List.Perm.flatMap_left ps (fun p _ => boundary_perm p)

/-! ### `find?` with a unique candidate -/

theorem find?_unique {α : Type} (pred : α → Bool) (l : List α) (x : α) (hx : x ∈ l) (hp : pred x = true)
    (hu : ∀ y ∈ l, pred y = true → y = x) : l.find? pred = some x := by
  induction l with
  | nil => cases hx
  | cons y ys ih =>
    rw [List.find?_cons]
    cases hy : pred y with
    | true => rw [hu y (by simp) hy]
    | false =>
      rcases List.mem_cons.mp hx with rfl | hx'
      · rw [hp] at hy; cases hy
      · exact ih hx' (fun z hz => hu z (List.mem_cons_of_mem _ hz))

theorem findFace_boundary (p : Patch) (a : Nat) (e : Int) :
    findFace p.boundary a e =
      if a < p.dim ∧ (e = -1 ∨ e = 1) then .ok ⟨p, a, e⟩ else .error .valueError := by
  have hmem : ∀ y, y ∈ p.boundary ↔ y.patch = p ∧ y.axis < p.dim ∧ (y.ext = -1 ∨ y.ext = 1) :=
    fun y => (mem_boundary p y).trans (mem_faces p y)
  unfold findFace
  split_ifs with h
  · rw [find?_unique (fun (f : Face) => f.ext == e && f.axis == a) _ ⟨p, a, e⟩ ((hmem _).mpr ⟨rfl, h⟩) (by simp)]
    intro y hy hpy
    simp only [Bool.and_eq_true, beq_iff_eq] at hpy
    cases y; simp_all
  · rw [List.find?_eq_none.mpr]
    intro y hy hpy
    simp only [Bool.and_eq_true, beq_iff_eq] at hpy
    exact h (hpy.1 ▸ hpy.2 ▸ ((hmem y).mp hy).2)

theorem getBoundary_eq_ok {p : Patch} {ax : Option Nat} {e : Int} {f : Face} :
    p.getBoundary ax e = .ok f ↔
      ∃ a, normAxis p.dim ax = .ok a ∧ a < p.dim ∧ (e = -1 ∨ e = 1) ∧ f = ⟨p, a, e⟩ := by
  simp only [Patch.getBoundary, bind_eq_ok, findFace_boundary]
  refine exists_congr fun a => and_congr_right fun _ => ?_
  split_ifs with h
  · simp [h, eq_comm]
  · simp; tauto

theorem getBoundary_patch {p : Patch} {ax : Option Nat} {e : Int} {f : Face}
    (h : p.getBoundary ax e = .ok f) : f.patch = p := by
  obtain ⟨a, _, _, _, rfl⟩ := getBoundary_eq_ok.mp h; rfl

theorem getBoundary_mem {p : Patch} {ax : Option Nat} {e : Int} {f : Face}
    (h : p.getBoundary ax e = .ok f) : f ∈ p.faces := by
  obtain ⟨a, _, h1, h2, rfl⟩ := getBoundary_eq_ok.mp h
  exact (mem_faces p _).mpr ⟨rfl, h1, h2⟩

/-! ### dictionaries filled with fresh keys -/

theorem foldl_fresh {α β κ : Type} (f : List β → α → List β) (g : α → β) (key : β → κ) (R : κ → κ → Prop)
    (hf : ∀ acc x, (∀ e ∈ acc, ¬R (key e) (key (g x))) → f acc x = acc ++ [g x]) (l : List α) (acc : List β)
    (h : (acc.map key ++ l.map fun x => key (g x)).Pairwise (fun a b => ¬R a b)) :
    l.foldl f acc = acc ++ l.map g := by
  induction l generalizing acc with
  | nil => simp
  | cons x xs ih =>
    rw [List.foldl_cons, hf acc x fun e he =>
      (List.pairwise_append.mp h).2.2 _ (List.mem_map_of_mem he) _ List.mem_cons_self, ih, List.append_assoc]
    · rfl
    · simpa using h

theorem connSet_fresh (d : List Iface) (i : Iface) (h : ∀ e ∈ d, ¬e.name = i.name) : connSet d i = d ++ [i] :=
  if_neg fun hany => let ⟨e, he, hn⟩ := List.any_eq_true.mp hany; h e he (eq_of_beq hn)

theorem dictSet_fresh {κ ν : Type} (eq : κ → κ → Bool) (d : List (κ × ν)) (k : κ) (v : ν)
    (h : ∀ e ∈ d, ¬eq e.1 k = true) : dictSet eq d k v = d ++ [(k, v)] :=
  if_neg fun hany => let ⟨e, he, hn⟩ := List.any_eq_true.mp hany; h e he hn

theorem foldl_connSet_fresh (l acc : List Iface) (h : (acc.map Iface.name ++ l.map Iface.name).Nodup) :
    l.foldl connSet acc = acc ++ l :=
  (foldl_fresh connSet id Iface.name Eq connSet_fresh l acc h).trans (by rw [List.map_id])

theorem foldl_dictSet_fresh {α κ ν : Type} (eq : κ → κ → Bool) (k : α → κ) (v : α → ν) (l : List α)
    (acc : List (κ × ν)) (h : (acc.map (·.1) ++ l.map k).Pairwise (fun a b => eq a b = false)) :
    l.foldl (fun d x => dictSet eq d (k x) (v x)) acc = acc ++ l.map (fun x => (k x, v x)) :=
  foldl_fresh _ (fun x => (k x, v x)) (·.1) (fun a b => eq a b = true)
    (fun acc x => dictSet_fresh eq acc (k x) (v x)) l acc (h.imp Bool.eq_false_iff.mp)

def RConn.name (c : RConn) : String := ifaceName c.minus.patch.name c.plus.patch.name
def RConn.toIface (c : RConn) : Iface := mkIface c.minus c.plus c.ornt

theorem toIface_name (c : RConn) : c.toIface.name = c.name := rfl

theorem stepIface_fresh (acc : List Iface) (c : RConn) (h : ∀ e ∈ acc, ¬e.name = c.toIface.name) :
    stepIface acc c = acc ++ [c.toIface] :=
  (if_neg fun hany => let ⟨e, he, hn⟩ := List.any_eq_true.mp hany; h e he (eq_of_beq hn)).trans
    (connSet_fresh acc _ h)

theorem buildIfaces_eq (cs : List RConn) (h : (cs.map RConn.name).Nodup) :
    buildIfaces cs = cs.map RConn.toIface :=
  foldl_fresh stepIface RConn.toIface Iface.name Eq stepIface_fresh cs [] h

/-! ### resolving the declared connections -/

/-- how a side of a declared connection names its patch: by index into `ps`, or as an object -/
def SideRef (ps : List Patch) (byIdx : Bool) (s : Side) (p : Patch) : Prop :=
  match s.ref with
  | .idx k => byIdx = true ∧ pyIndex ps k = some p
  | .obj q => byIdx = false ∧ q = p

theorem resolve_eq_ok {ps : List Patch} {dim : Nat} {b : Bool} {c : Conn} {r : RConn} :
    resolve ps dim b c = .ok r ↔
      SideRef ps b c.minus r.minus.patch ∧ SideRef ps b c.plus r.plus.patch ∧
      r.minus.patch.getBoundary c.minus.axis c.minus.ext = .ok r.minus ∧
      r.plus.patch.getBoundary c.plus.axis c.plus.ext = .ok r.plus ∧
      mkOrnt dim c.ornt = .ok r.ornt ∧ r.minus.patch.dim = dim ∧ r.plus.patch.dim = dim ∧
      r.minus.axis = r.plus.axis := by
  unfold resolve SideRef
  extract_lets +onlyGivenNames tail
  -- the checks made once both faces are found
  have htail : ∀ bm bp, tail (bm, bp) = .ok r ↔ mkOrnt dim c.ornt = .ok r.ornt ∧
      bm.patch.dim = bp.patch.dim ∧ bm.patch.dim = dim ∧ bm.axis = bp.axis ∧ bm = r.minus ∧ bp = r.plus := by
    intro bm bp
    simp only [tail, bind_eq_ok, ite_throw_eq_ok, pure, Except.pure, throw, throwThe, MonadExceptOf.throw,
      Except.ok.injEq, bne_iff_ne, ne_eq, Decidable.not_not]
    exact ⟨fun ⟨_, ho, h1, h2, h3, e⟩ => by subst e; exact ⟨ho, h1, h2, h3, rfl, rfl⟩,
      fun ⟨ho, h1, h2, h3, e1, e2⟩ => ⟨_, ho, h1, h2, h3, by subst e1 e2; rfl⟩⟩
  clear_value tail
  simp -zeta only [pure, Except.pure, throw, throwThe, MonadExceptOf.throw]
  cases b <;> cases c.minus.ref <;> cases c.plus.ref
  -- the first side is named in the wrong way: an exception at once
  case false.idx.idx | false.idx.obj | true.obj.idx | true.obj.obj =>
    exact ⟨fun h => (nomatch h), fun h => (nomatch h.1.1)⟩
  case' true.idx.idx i j => cases hi : pyIndex ps i <;> cases hj : pyIndex ps j
  case' true.idx.obj i _ => cases hi : pyIndex ps i
  all_goals
    simp only [bind_eq_ok, Bool.false_eq_true, if_false, if_true, reduceCtorEq, false_and, exists_false,
      and_false, true_and, Except.ok.injEq, Option.some.injEq, exists_eq_left', *]
  -- left: both sides name a patch in the right way
  all_goals
    constructor
    · rintro ⟨_, hm, _, hp, ho, h1, h2, h3, rfl, rfl⟩
      cases getBoundary_patch hm
      cases getBoundary_patch hp
      exact ⟨rfl, rfl, hm, hp, ho, h2, h1 ▸ h2, h3⟩
    · rintro ⟨rfl, rfl, hm, hp, ho, h1, h2, h3⟩
      exact ⟨_, hm, _, hp, ho, h1.trans h2.symm, h1, h3, rfl, rfl⟩

theorem SideRef.isIdx {ps : List Patch} {b : Bool} {s : Side} {p : Patch} (h : SideRef ps b s p) :
    s.ref.isIdx = b := by
  unfold SideRef at h
  split at h <;> simp_all [Ref.isIdx]

theorem pyIndex_mem {α : Type} {l : List α} {i : Int} {x : α} (h : pyIndex l i = some x) : x ∈ l := by
  unfold pyIndex at h
  split at h
  · exact List.mem_of_getElem? h
  · split at h
    · exact List.mem_of_getElem? h
    · cases h

def RefsIn (ps : List Patch) (cs : List Conn) : Prop :=
  ∀ c ∈ cs, (∀ p, c.minus.ref = .obj p → p ∈ ps) ∧ (∀ p, c.plus.ref = .obj p → p ∈ ps)

/-- the resolved connection of a declared one (junk when the real code raises) -/
def resolveD (ps : List Patch) (dim : Nat) (byIdx : Bool) (c : Conn) : RConn :=
  match resolve ps dim byIdx c with
  | .ok r => r
  | .error _ => ⟨default, default, default⟩

theorem resolveAll_ok (ps : List Patch) (dim : Nat) (b : Bool) (cs : List Conn) (rcs : List RConn) :
    resolveAll ps dim b cs = .ok rcs ↔
      (∀ c ∈ cs, ∃ r, resolve ps dim b c = .ok r) ∧ rcs = cs.map (resolveD ps dim b) := by
  induction cs generalizing rcs with
  | nil => simp [resolveAll, eq_comm]
  | cons c cs ih =>
    simp only [resolveAll, bind_eq_ok, ih, List.mem_cons, forall_eq_or_imp, List.map_cons, Except.ok.injEq]
    constructor
    · rintro ⟨r, hr, _, ⟨hall, rfl⟩, rfl⟩
      exact ⟨⟨⟨r, hr⟩, hall⟩, by simp [resolveD, hr]⟩
    · rintro ⟨⟨⟨r, hr⟩, hall⟩, rfl⟩
      exact ⟨r, hr, _, ⟨hall, rfl⟩, by simp [resolveD, hr]⟩

/-! ### what `Domain.join` returns -/

def headDim : List Patch → Nat
  | p :: _ => p.dim
  | [] => 0

/-- the declared connections after `get_boundary` and the orientation defaults
    (empty when the real code raises while resolving them) -/
def resolved (ps : List Patch) (cs : List Conn) : List RConn :=
  match resolveAll ps (headDim ps) (byIndices cs) cs with
  | .ok r => r
  | .error _ => []

theorem finishJoin_eq {name : String} {ints : List Patch} {bnd : List Face} {ifs : List Iface}
    (hne : ∀ x, ints ≠ [x]) :
    finishJoin name ints bnd ifs =
      if ints.all (fun e => e.mapping.isSome) then
        logicalIfaces [] ifs >>= fun lifs =>
          .ok { name := name, interiors := ints, boundary := bnd, ifaces := ifs,
                logical := some ⟨name, unionPatches (ints.map Patch.strip), unionFaces (bnd.filterMap Face.logical), lifs⟩,
                mappings := mappingDict ints }
      else .ok { name := name, interiors := ints, boundary := bnd, ifaces := ifs, logical := none, mappings := [] } := by
  unfold finishJoin
  split
  · exact absurd rfl (hne _)
  · rfl

theorem finishJoin_not_single {name : String} {ints : List Patch} {bnd : List Face} {ifs : List Iface} {d : Dom}
    (h : finishJoin name ints bnd ifs = .ok d) : ∀ x, ints ≠ [x] := by
  rintro x rfl; cases h

theorem finishJoin_core {name : String} {ints : List Patch} {bnd : List Face} {ifs : List Iface} {d : Dom}
    (h : finishJoin name ints bnd ifs = .ok d) :
    d.name = name ∧ d.interiors = ints ∧ d.boundary = bnd ∧ d.ifaces = ifs := by
  rw [finishJoin_eq (finishJoin_not_single h)] at h
  split at h
  · obtain ⟨_, _, h⟩ := (bind_eq_ok _ _ _).mp h
    cases h; exact ⟨rfl, rfl, rfl, rfl⟩
  · cases h; exact ⟨rfl, rfl, rfl, rfl⟩

theorem finishJoin_mapped {name : String} {ints : List Patch} {bnd : List Face} {ifs : List Iface} {d : Dom}
    (h : finishJoin name ints bnd ifs = .ok d) (hm : ints.all (fun e => e.mapping.isSome) = true) :
    ∃ lifs, logicalIfaces [] ifs = .ok lifs ∧
      d.logical = some ⟨name, unionPatches (ints.map Patch.strip), unionFaces (bnd.filterMap Face.logical), lifs⟩ ∧
      d.mappings = mappingDict ints := by
  rw [finishJoin_eq (finishJoin_not_single h), if_pos hm] at h
  obtain ⟨lifs, hl, h⟩ := (bind_eq_ok _ _ _).mp h
  cases h; exact ⟨lifs, hl, rfl, rfl⟩

theorem finishJoin_unmapped {name : String} {ints : List Patch} {bnd : List Face} {ifs : List Iface} {d : Dom}
    (h : finishJoin name ints bnd ifs = .ok d) (hm : ints.all (fun e => e.mapping.isSome) = false) :
    d.logical = none ∧ d.mappings = [] := by
  rw [finishJoin_eq (finishJoin_not_single h), if_neg (by simp [hm])] at h
  cases h; exact ⟨rfl, rfl⟩

theorem join_eq_ok {ps : List Patch} {cs : List Conn} {name : String} {d : Dom} (hlen : 2 ≤ ps.length) :
    join ps cs name = .ok d ↔
      (∀ p ∈ ps, p.dim = headDim ps) ∧
      resolveAll ps (headDim ps) (byIndices cs) cs = .ok (resolved ps cs) ∧
      finishJoin name (unionPatches ps)
        (externalFaces (ps.flatMap Patch.boundary) ((resolved ps cs).flatMap RConn.sides))
        (buildIfaces (resolved ps cs)) = .ok d := by
  match ps, hlen with
  | p0 :: p1 :: rest, _ =>
    simp only [join, headDim, resolved]
    generalize p0 :: p1 :: rest = ps
    by_cases hd : ∀ p ∈ ps, p.dim = p0.dim
    · rw [if_neg fun hany => let ⟨p, hp, hne⟩ := List.any_eq_true.mp hany; (bne_iff_ne.mp hne) (hd p hp)]
      cases hr : resolveAll ps p0.dim (byIndices cs) cs with
      | error e => exact ⟨fun h => (nomatch h), fun h => (nomatch h.2.1)⟩
      | ok rcs => exact ⟨fun h => ⟨hd, rfl, h⟩, fun h => h.2.2⟩
    · rw [if_pos (by simpa using hd)]
      exact ⟨fun h => (nomatch h), fun h => absurd h.1 hd⟩

theorem join_fields {ps : List Patch} {cs : List Conn} {name : String} {d : Dom}
    (h : join ps cs name = .ok d) (hlen : 2 ≤ ps.length) :
    d.name = name ∧ d.interiors = unionPatches ps ∧
    d.boundary = externalFaces (ps.flatMap Patch.boundary) ((resolved ps cs).flatMap RConn.sides) ∧
    d.ifaces = buildIfaces (resolved ps cs) :=
  finishJoin_core ((join_eq_ok hlen).mp h).2.2

/-- what a declared connection `c` means: the faces it names and its orientation with the
    defaults of `Domain.join` (1 in 2D, (1,1,1) in 3D, none in 1D) -/
def Declares (ps : List Patch) (dim : Nat) (byIdx : Bool) (c : Conn) (i : Iface) : Prop :=
  ∃ pm pp am ap o,
    (if byIdx then (∃ k, c.minus.ref = .idx k ∧ pyIndex ps k = some pm) else c.minus.ref = .obj pm) ∧
    (if byIdx then (∃ k, c.plus.ref = .idx k ∧ pyIndex ps k = some pp) else c.plus.ref = .obj pp) ∧
    normAxis pm.dim c.minus.axis = .ok am ∧ normAxis pp.dim c.plus.axis = .ok ap ∧
    mkOrnt dim c.ornt = .ok o ∧
    i = ⟨ifaceName pm.name pp.name, ⟨pm, am, c.minus.ext⟩, ⟨pp, ap, c.plus.ext⟩, o⟩

theorem SideRef.declares {ps : List Patch} {b : Bool} {s : Side} {p : Patch} (h : SideRef ps b s p) :
    if b then (∃ k, s.ref = .idx k ∧ pyIndex ps k = some p) else s.ref = .obj p := by
  unfold SideRef at h
  split at h <;> simp_all

theorem resolve_declares {ps : List Patch} {dim : Nat} {b : Bool} {c : Conn} {r : RConn}
    (h : resolve ps dim b c = .ok r) : Declares ps dim b c r.toIface := by
  obtain ⟨sm, sp, hbm, hbp, ho, _⟩ := resolve_eq_ok.mp h
  obtain ⟨am, ham, _, _, hfm⟩ := getBoundary_eq_ok.mp hbm
  obtain ⟨ap, hap, _, _, hfp⟩ := getBoundary_eq_ok.mp hbp
  refine ⟨r.minus.patch, r.plus.patch, am, ap, r.ornt, sm.declares, sp.declares, ham, hap, ho, ?_⟩
  rw [← hfm, ← hfp]; rfl

/-! ### hypotheses of the partition theorems and the external boundary -/

/-- no face is used by two connections, no ordered patch pair is declared twice, and the declared
    patches are among the joined ones (decidable for every concrete layout) -/
def ConnsOk (ps : List Patch) (cs : List Conn) : Prop :=
  ((resolved ps cs).flatMap RConn.sides).Nodup ∧ ((resolved ps cs).map RConn.name).Nodup ∧
  ∀ c ∈ resolved ps cs, c.minus.patch ∈ ps ∧ c.plus.patch ∈ ps

instance (ps : List Patch) (cs : List Conn) : Decidable (ConnsOk ps cs) := by
  unfold ConnsOk; infer_instance

theorem join_ifaces {ps : List Patch} {cs : List Conn} {name : String} {d : Dom}
    (hj : join ps cs name = .ok d) (hlen : 2 ≤ ps.length) (hok : ConnsOk ps cs) :
    d.ifaces = (resolved ps cs).map RConn.toIface := by
  rw [(join_fields hj hlen).2.2.2, buildIfaces_eq _ hok.2.1]

def ifaceSides (ifs : List Iface) : List Face := ifs.flatMap (fun i => [i.minus, i.plus])

theorem mem_ifaceSides (ifs : List Iface) (f : Face) :
    f ∈ ifaceSides ifs ↔ ∃ i ∈ ifs, f = i.minus ∨ f = i.plus := by
  simp [ifaceSides, List.mem_flatMap]

theorem minus_side {ifs : List Iface} {i : Iface} (h : i ∈ ifs) : i.minus ∈ ifaceSides ifs :=
  (mem_ifaceSides ifs _).mpr ⟨i, h, Or.inl rfl⟩

theorem plus_side {ifs : List Iface} {i : Iface} (h : i ∈ ifs) : i.plus ∈ ifaceSides ifs :=
  (mem_ifaceSides ifs _).mpr ⟨i, h, Or.inr rfl⟩

theorem ifaceSides_map_toIface (rcs : List RConn) :
    ifaceSides (rcs.map RConn.toIface) = rcs.flatMap RConn.sides := by
  rw [ifaceSides, List.flatMap_map]; rfl

theorem sides_perm (ifs : List Iface) :
    (ifs.map Iface.minus ++ ifs.map Iface.plus).Perm (ifaceSides ifs) := by
  induction ifs with
  | nil => simp [ifaceSides]
  | cons i is ih =>
    simp only [List.map_cons, ifaceSides, List.flatMap_cons, List.cons_append, List.nil_append] at ih ⊢
    exact List.Perm.cons _ ((List.perm_middle).trans (List.Perm.cons _ ih))

theorem memFace_iff {ps : List Patch} (hn : NamesOk ps) {b : Face} {joined : List Face}
    (hb : b.patch ∈ ps) (hj : ∀ g ∈ joined, g.patch ∈ ps) : memFace b joined = true ↔ b ∈ joined := by
  rw [memFace, List.any_eq_true]
  exact ⟨fun ⟨g, hg, hs⟩ => (same_iff_eq hn (hj g hg) hb).mp hs ▸ hg, fun h => ⟨b, h, same_refl b⟩⟩

theorem externalFaces_perm {ps : List Patch} (hn : NamesOk ps) (joined : List Face)
    (hj : ∀ g ∈ joined, g.patch ∈ ps) :
    (externalFaces (ps.flatMap Patch.boundary) joined).Perm
      ((allFaces ps).filter (fun b => decide (b ∉ joined))) := by
  have hperm := allBoundary_perm ps
  have hmemps : ∀ f ∈ ps.flatMap Patch.boundary, f.patch ∈ ps := fun f hf =>
    ((mem_allFaces ps f).mp (hperm.subset hf)).1
  have h1 : (ps.flatMap Patch.boundary).filter (fun b => !memFace b joined) =
      (ps.flatMap Patch.boundary).filter (fun b => decide (b ∉ joined)) :=
    List.filter_congr fun b hb => by
      rw [Bool.eq_iff_iff, Bool.not_eq_true', ← Bool.not_eq_true, memFace_iff hn (hmemps b hb) hj]; simp
  rw [externalFaces, h1]
  refine (unionBy_perm _ _ _ (pairwise_not_same_of_nodup hn (fun f hf => hmemps f (List.mem_filter.mp hf).1)
    (List.Nodup.filter _ (hperm.nodup_iff.mpr (allFaces_nodup hn.nodup))))).trans (hperm.filter _)

theorem complement_append_perm {l joined : List Face} (hl : l.Nodup) (hj : joined.Nodup)
    (hsub : ∀ f ∈ joined, f ∈ l) :
    (l.filter (fun b => decide (b ∉ joined)) ++ joined).Perm l := by
  have h1 : joined.Perm (l.filter (fun b => decide (b ∈ joined))) := by
    rw [List.perm_ext_iff_of_nodup hj (List.Nodup.filter _ hl)]
    intro a
    simp only [List.mem_filter, decide_eq_true_eq]
    exact ⟨fun h => ⟨hsub a h, h⟩, fun h => h.2⟩
  have h2 := List.filter_append_perm (fun b => decide (b ∈ joined)) l
  have h3 : l.filter (fun x => !(fun b => decide (b ∈ joined)) x) = l.filter (fun b => decide (b ∉ joined)) :=
    List.filter_congr fun x _ => by simp
  rw [h3] at h2
  exact (List.perm_append_comm.trans ((List.Perm.append_right _ h1).trans h2))

theorem resolved_spec {ps : List Patch} {cs : List Conn}
    (hr : resolveAll ps (headDim ps) (byIndices cs) cs = .ok (resolved ps cs)) :
    resolved ps cs = cs.map (resolveD ps (headDim ps) (byIndices cs)) ∧
    ∀ c ∈ cs, resolve ps (headDim ps) (byIndices cs) c = .ok (resolveD ps (headDim ps) (byIndices cs) c) := by
  obtain ⟨h1, h2⟩ := (resolveAll_ok _ _ _ _ _).mp hr
  refine ⟨h2, fun c hc => ?_⟩
  obtain ⟨r, hr'⟩ := h1 c hc
  simp [resolveD, hr']

theorem resolved_from {ps : List Patch} {cs : List Conn}
    (hr : resolveAll ps (headDim ps) (byIndices cs) cs = .ok (resolved ps cs))
    {r : RConn} (h : r ∈ resolved ps cs) : ∃ c ∈ cs, resolve ps (headDim ps) (byIndices cs) c = .ok r := by
  obtain ⟨h1, h2⟩ := resolved_spec hr
  rw [h1] at h
  obtain ⟨c, hc, rfl⟩ := List.mem_map.mp h
  exact ⟨c, hc, h2 c hc⟩

theorem joined_in {ps : List Patch} {cs : List Conn}
    (hr : resolveAll ps (headDim ps) (byIndices cs) cs = .ok (resolved ps cs)) (hok : ConnsOk ps cs) :
    ∀ f ∈ (resolved ps cs).flatMap RConn.sides, f ∈ allFaces ps := by
  intro f hf
  obtain ⟨r, hr', hfr⟩ := List.mem_flatMap.mp hf
  obtain ⟨c, _, hc⟩ := resolved_from hr hr'
  obtain ⟨_, _, hm, hp, _⟩ := resolve_eq_ok.mp hc
  have hps := hok.2.2 r hr'
  simp only [RConn.sides, List.mem_cons, List.not_mem_nil, or_false] at hfr
  rcases hfr with rfl | rfl
  · exact (mem_allFaces ps _).mpr ⟨hps.1, ((mem_faces _ _).mp (getBoundary_mem hm)).2⟩
  · exact (mem_allFaces ps _).mpr ⟨hps.2, ((mem_faces _ _).mp (getBoundary_mem hp)).2⟩

/-! ### the logical twin -/

/-- the logical names are pairwise different -/
def LNamesOk (ps : List Patch) : Prop := NamesOk (ps.map Patch.strip)

instance (ps : List Patch) : Decidable (LNamesOk ps) := by unfold LNamesOk; infer_instance

def Iface.strip (i : Iface) : Iface := mkIface i.minus.strip i.plus.strip i.ornt
def RConn.lname (c : RConn) : String := ifaceName c.minus.patch.lname c.plus.patch.lname

/-- no ordered pair of logical patches is declared twice -/
def LConnsOk (ps : List Patch) (cs : List Conn) : Prop := ((resolved ps cs).map RConn.lname).Nodup

instance (ps : List Patch) (cs : List Conn) : Decidable (LConnsOk ps cs) := by unfold LConnsOk; infer_instance

theorem strip_name (p : Patch) : p.strip.name = p.lname := by simp [Patch.strip, Patch.name]
theorem strip_dim (p : Patch) : p.strip.dim = p.dim := rfl

theorem facesFrom_strip (p : Patch) (n : Nat) : facesFrom p.strip n = (facesFrom p n).map Face.strip := by
  induction n with
  | zero => rfl
  | succ n ih => simp [facesFrom, ih, Face.strip]

theorem allFaces_strip (ps : List Patch) : allFaces (ps.map Patch.strip) = (allFaces ps).map Face.strip := by
  induction ps with
  | nil => rfl
  | cons p ps ih =>
    simp only [allFaces, List.map_cons, List.flatMap_cons, List.map_append] at ih ⊢
    rw [ih]
    congr 1
    exact facesFrom_strip p p.dim

theorem face_logical_of_mapped {f : Face} (h : f.patch.mapping.isSome) : f.logical = some f.strip := by
  simp [Face.logical, h]

theorem iface_logical_of_mapped {i : Iface} (h1 : i.minus.patch.mapping.isSome) (h2 : i.plus.patch.mapping.isSome) :
    i.logical = some i.strip := by
  simp [Iface.logical, face_logical_of_mapped h1, face_logical_of_mapped h2, Iface.strip]

theorem toIface_strip_name (c : RConn) : c.toIface.strip.name = c.lname := by
  simp [RConn.toIface, Iface.strip, mkIface, RConn.lname, Face.strip, strip_name]

theorem logicalIfaces_eq (is : List Iface) (acc : List Iface)
    (hl : ∀ i ∈ is, i.logical = some i.strip)
    (hnd : (acc.map Iface.name ++ is.map (fun i => i.strip.name)).Nodup) :
    logicalIfaces acc is = .ok (acc ++ is.map Iface.strip) := by
  induction is generalizing acc with
  | nil => simp [logicalIfaces]
  | cons i is ih =>
    simp only [logicalIfaces, hl i (by simp)]
    have hfresh : ∀ e ∈ acc, e.name ≠ i.strip.name := by
      intro e he heq
      rw [List.nodup_append] at hnd
      exact hnd.2.2 e.name (List.mem_map_of_mem he) i.strip.name (by simp) heq
    rw [connSet_fresh acc _ hfresh, ih _ (fun j hj => hl j (List.mem_cons_of_mem _ hj))]
    · simp
    · simpa using hnd

theorem mappingDict_eq (ps : List Patch) (h : (ps.map Patch.lname).Nodup) :
    mappingDict ps = ps.map (fun p => (p.lname, p.mapping.getD "")) := by
  simpa [mappingDict] using foldl_dictSet_fresh (· == ·) Patch.lname (fun p => p.mapping.getD "") ps []
    (by simpa using h.imp fun hab => by simpa using hab)

theorem filterMap_eq_map_of {α β : Type} (f : α → Option β) (g : α → β) (l : List α)
    (h : ∀ x ∈ l, f x = some (g x)) : l.filterMap f = l.map g :=
  (List.filterMap_congr h).trans (congrFun List.filterMap_eq_map' l)

theorem LNamesOk.patch_inj {ps : List Patch} (h : LNamesOk ps) {p q : Patch} (hp : p ∈ ps) (hq : q ∈ ps)
    (e : p.strip = q.strip) : p = q := by
  unfold LNamesOk NamesOk at h
  rw [List.map_map] at h
  exact List.inj_on_of_nodup_map h hp hq (by simp [Function.comp, e])

theorem LNamesOk.face_inj {ps : List Patch} (h : LNamesOk ps) {f g : Face} (hf : f.patch ∈ ps) (hg : g.patch ∈ ps)
    (e : f.strip = g.strip) : f = g := by
  have h1 : f.patch.strip = g.patch.strip := by
    have := congrArg Face.patch e; simpa [Face.strip] using this
  have h2 : f.axis = g.axis := by have := congrArg Face.axis e; simpa [Face.strip] using this
  have h3 : f.ext = g.ext := by have := congrArg Face.ext e; simpa [Face.strip] using this
  have := h.patch_inj hf hg h1
  cases f; cases g; simp_all

theorem LNamesOk.lnames {ps : List Patch} (h : LNamesOk ps) : (ps.map Patch.lname).Nodup := by
  unfold LNamesOk NamesOk at h
  rw [List.map_map] at h
  have : (Patch.name ∘ Patch.strip) = Patch.lname := by funext p; simp [Function.comp, strip_name]
  rwa [this] at h

theorem LNamesOk.perm {ps qs : List Patch} (h : LNamesOk ps) (hp : qs.Perm ps) : LNamesOk qs := by
  unfold LNamesOk NamesOk at h ⊢
  exact (((hp.map Patch.strip).map Patch.name).nodup_iff).mpr h

theorem ifaceSides_map_strip (ifs : List Iface) :
    ifaceSides (ifs.map Iface.strip) = (ifaceSides ifs).map Face.strip := by
  induction ifs with
  | nil => rfl
  | cons i is ih =>
    simp only [ifaceSides, List.map_cons, List.flatMap_cons, List.map_append] at ih ⊢
    rw [ih]; rfl

theorem strip_patch_mem {ps : List Patch} {f : Face} (h : f.patch ∈ ps) : f.strip.patch ∈ ps.map Patch.strip :=
  List.mem_map_of_mem h

/-! ### order of the declared connections -/

theorem logicalIfaces_ok_iff (is acc : List Iface) :
    (∃ r, logicalIfaces acc is = .ok r) ↔ ∀ i ∈ is, i.logical.isSome := by
  induction is generalizing acc with
  | nil => simp [logicalIfaces]
  | cons i is ih => cases hl : i.logical <;> simp [logicalIfaces, hl, ih]

theorem finishJoin_ok {name : String} {ints : List Patch} {bnd : List Face} {ifs : List Iface}
    (hne : ∀ x, ints ≠ [x])
    (hm : ints.all (fun e => e.mapping.isSome) = true → ∀ i ∈ ifs, i.logical.isSome) :
    ∃ d, finishJoin name ints bnd ifs = .ok d := by
  rw [finishJoin_eq hne]
  split_ifs with h
  · obtain ⟨r, hr⟩ := (logicalIfaces_ok_iff ifs []).mpr (hm h)
    exact ⟨_, by rw [hr]; rfl⟩
  · exact ⟨_, rfl⟩

theorem finishJoin_perm {name : String} {ints : List Patch} {bnd : List Face} {ifs ifs' : List Iface} {d : Dom}
    (h : finishJoin name ints bnd ifs = .ok d) (hp : ifs'.Perm ifs) :
    ∃ d', finishJoin name ints bnd ifs' = .ok d' ∧ d'.name = d.name ∧ d'.interiors = d.interiors ∧
      d'.boundary = d.boundary ∧ d'.ifaces = ifs' ∧ d'.mappings = d.mappings ∧
      (d'.logical.isSome = d.logical.isSome) ∧
      ∀ L L', d.logical = some L → d'.logical = some L' →
        L'.name = L.name ∧ L'.interiors = L.interiors ∧ L'.boundary = L.boundary := by
  have hne := finishJoin_not_single h
  rw [finishJoin_eq hne] at h ⊢
  split_ifs at h ⊢
  · obtain ⟨lifs, hl, h⟩ := (bind_eq_ok _ _ _).mp h
    obtain ⟨r, hr⟩ := (logicalIfaces_ok_iff ifs' []).mpr fun i hi =>
      (logicalIfaces_ok_iff ifs []).mp ⟨lifs, hl⟩ i (hp.subset hi)
    cases h
    rw [hr]
    refine ⟨_, rfl, rfl, rfl, rfl, rfl, rfl, rfl, ?_⟩
    intro L L' h1 h2
    cases h1; cases h2
    exact ⟨rfl, rfl, rfl⟩
  · cases h
    exact ⟨_, rfl, rfl, rfl, rfl, rfl, rfl, rfl, fun L L' h1 => by cases h1⟩

theorem byIndices_perm {ps : List Patch} {dim : Nat} {cs cs' : List Conn} {rcs : List RConn}
    (h : resolveAll ps dim (byIndices cs) cs = .ok rcs) (hp : cs'.Perm cs) : byIndices cs' = byIndices cs := by
  cases cs' with
  | nil => rw [List.Perm.eq_nil hp.symm]
  | cons c cs'' =>
    obtain ⟨r, hr⟩ := ((resolveAll_ok _ _ _ _ _).mp h).1 c (hp.subset (by simp))
    exact (resolve_eq_ok.mp hr).1.isIdx

theorem externalFaces_perm_joined (allB : List Face) {j j' : List Face} (hp : j'.Perm j) :
    externalFaces allB j' = externalFaces allB j := by
  unfold externalFaces memFace
  simp only [hp.any_eq]

theorem resolved_perm {ps : List Patch} {cs cs' : List Conn}
    (hr : resolveAll ps (headDim ps) (byIndices cs) cs = .ok (resolved ps cs)) (hp : cs'.Perm cs) :
    resolveAll ps (headDim ps) (byIndices cs') cs' = .ok (resolved ps cs') ∧
    (resolved ps cs').Perm (resolved ps cs) := by
  obtain ⟨h1, h2⟩ := (resolveAll_ok _ _ _ _ _).mp hr
  have hr' : resolveAll ps (headDim ps) (byIndices cs') cs' =
      .ok (cs'.map (resolveD ps (headDim ps) (byIndices cs))) := by
    rw [byIndices_perm hr hp]
    exact (resolveAll_ok _ _ _ _ _).mpr ⟨fun c hc => h1 c (hp.subset hc), rfl⟩
  have hres' : resolved ps cs' = cs'.map (resolveD ps (headDim ps) (byIndices cs)) := by
    simp [resolved, hr']
  rw [hres', h2]
  exact ⟨hr', hp.map _⟩

theorem ConnsOk.perm {ps : List Patch} {cs cs' : List Conn} (hok : ConnsOk ps cs)
    (hp : (resolved ps cs').Perm (resolved ps cs)) : ConnsOk ps cs' :=
  ⟨((hp.flatMap_right _).nodup_iff).mpr hok.1, ((hp.map _).nodup_iff).mpr hok.2.1,
    fun c hc => hok.2.2 c (hp.subset hc)⟩

/-! ### interface names are unambiguous when the patch names contain no `|` -/

def PipeFree (s : String) : Prop := '|' ∉ s.toList
instance (s : String) : Decidable (PipeFree s) := by unfold PipeFree; infer_instance

theorem split_at_sep {α : Type} (c : α) (l1 l2 r1 r2 : List α) (h1 : c ∉ l1) (h2 : c ∉ l2)
    (h : l1 ++ c :: r1 = l2 ++ c :: r2) : l1 = l2 ∧ r1 = r2 := by
  induction l1 generalizing l2 with
  | nil =>
    cases l2 with
    | nil => simpa using h
    | cons y ys =>
      simp only [List.nil_append, List.cons_append, List.cons.injEq] at h
      exact absurd (h.1 ▸ (by simp : y ∈ y :: ys)) (by simp [h.1] at h2)
  | cons x xs ih =>
    cases l2 with
    | nil =>
      simp only [List.nil_append, List.cons_append, List.cons.injEq] at h
      exact absurd (by rw [h.1]; simp) h1
    | cons y ys =>
      simp only [List.cons_append, List.cons.injEq] at h
      obtain ⟨r1', r2'⟩ := ih ys (fun hc => h1 (List.mem_cons_of_mem _ hc)) (fun hc => h2 (List.mem_cons_of_mem _ hc)) h.2
      exact ⟨by rw [h.1, r1'], r2'⟩

theorem ifaceName_inj {a b a' b' : String} (ha : PipeFree a) (ha' : PipeFree a')
    (h : ifaceName a b = ifaceName a' b') : a = a' ∧ b = b' := by
  unfold ifaceName at h
  have := congrArg String.toList h
  simp only [String.toList_append] at this
  have hs : ("|" : String).toList = ['|'] := rfl
  rw [hs] at this
  simp only [List.append_assoc, List.cons_append, List.nil_append] at this
  obtain ⟨h1, h2⟩ := split_at_sep '|' _ _ _ _ ha ha' this
  exact ⟨String.toList_inj.mp h1, String.toList_inj.mp h2⟩

/-! ### grids of n-cubes -/

theorem gridIdx_eq_product (n1 n2 n3 : Nat) :
    gridIdx n1 n2 n3 = (List.range n1).product ((List.range n2).product (List.range n3)) := by
  simp [gridIdx, List.product, List.map_flatMap, Function.comp_def]

theorem mem_gridIdx (n1 n2 n3 : Nat) (x : Nat × Nat × Nat) :
    x ∈ gridIdx n1 n2 n3 ↔ x.1 < n1 ∧ x.2.1 < n2 ∧ x.2.2 < n3 := by
  obtain ⟨a, b, c⟩ := x
  simp [gridIdx_eq_product]

theorem gridIdx_nodup (n1 n2 n3 : Nat) : (gridIdx n1 n2 n3).Nodup := by
  rw [gridIdx_eq_product]
  exact List.nodup_range.product (List.nodup_range.product List.nodup_range)

theorem idxGet_idxSet (x : Nat × Nat × Nat) {a b : Nat} (v : Nat) (ha : a < 3) (hb : b < 3) :
    idxGet (idxSet x a v) b = if b = a then v else idxGet x b := by
  rcases a with _ | _ | _ | a <;> rcases b with _ | _ | _ | b <;> first | rfl | omega

theorem idx_ext {x y : Nat × Nat × Nat} (h : ∀ b < 3, idxGet x b = idxGet y b) : x = y :=
  Prod.ext (h 0 (by omega)) (Prod.ext (h 1 (by omega)) (h 2 (by omega)))

theorem mem_idxs (g : Grid) (x : Nat × Nat × Nat) : x ∈ g.idxs ↔ ∀ b < 3, idxGet x b < g.size b := by
  rw [Grid.idxs, mem_gridIdx]
  refine ⟨fun h b hb => ?_, fun h => ⟨h 0 (by omega), h 1 (by omega), h 2 (by omega)⟩⟩
  match b, hb with
  | 0, _ => exact h.1
  | 1, _ => exact h.2.1
  | 2, _ => exact h.2.2

theorem next_spec (g : Grid) (x y : Nat × Nat × Nat) (a : Nat) (ha : a < 3) (hx : x ∈ g.idxs)
    (h : g.next x a = some y) :
    y ∈ g.idxs ∧ ∃ v, y = idxSet x a v ∧ v ≠ idxGet x a ∧
      (v = idxGet x a + 1 ∨ (v = 0 ∧ idxGet x a + 1 = g.size a)) := by
  have hxa := (mem_idxs g x).mp hx
  have key : ∀ v, v < g.size a → idxSet x a v ∈ g.idxs := fun v hv => (mem_idxs g _).mpr fun b hb => by
    rw [idxGet_idxSet x v ha hb]
    split
    · subst b; exact hv
    · exact hxa b hb
  unfold Grid.next at h
  split at h
  · cases h
    exact ⟨key _ ‹_›, _, rfl, by omega, Or.inl rfl⟩
  · split at h
    · cases h
      have := hxa a ha
      have h2 : 2 ≤ g.size a := by simp_all
      exact ⟨key 0 (by omega), 0, rfl, by omega, Or.inr ⟨rfl, by omega⟩⟩
    · cases h

theorem next_axis_unique (g : Grid) {x y : Nat × Nat × Nat} {a a' : Nat} (ha : a < 3) (ha' : a' < 3)
    (hx : x ∈ g.idxs) (h : g.next x a = some y) (h' : g.next x a' = some y) : a = a' := by
  obtain ⟨_, v, hy, hv, _⟩ := next_spec g x y a ha hx h
  obtain ⟨_, v', hy', _, _⟩ := next_spec g x y a' ha' hx h'
  apply Decidable.byContradiction
  intro hne
  have := congrArg (idxGet · a) (hy.symm.trans hy')
  simp only [idxGet_idxSet x _ ha ha, idxGet_idxSet x _ ha' ha, if_true, if_neg hne] at this
  exact hv this

theorem next_inj (g : Grid) {x x' y : Nat × Nat × Nat} {a : Nat} (ha : a < 3)
    (hx : x ∈ g.idxs) (hx' : x' ∈ g.idxs) (h : g.next x a = some y) (h' : g.next x' a = some y) : x = x' := by
  obtain ⟨_, v, hy, hv, hc⟩ := next_spec g x y a ha hx h
  obtain ⟨_, v', hy', hv', hc'⟩ := next_spec g x' y a ha hx' h'
  apply idx_ext
  intro b hb
  have e := congrArg (idxGet · b) (hy.symm.trans hy')
  simp only [idxGet_idxSet _ _ ha hb] at e
  split at e
  · subst b; omega
  · exact e

theorem next_ne (g : Grid) {x y : Nat × Nat × Nat} {a : Nat} (ha : a < 3)
    (hx : x ∈ g.idxs) (h : g.next x a = some y) : x ≠ y := by
  obtain ⟨_, v, hy, hv, _⟩ := next_spec g x y a ha hx h
  intro e
  have := congrArg (idxGet · a) (e.trans hy)
  simp only [idxGet_idxSet x v ha ha, if_true] at this
  exact hv this.symm

/-- hygiene of a grid layout: dimension 1..3, every patch has that dimension, the patch names are
    pairwise different and contain no `|` (the separator of interface names) -/
structure GridOk (g : Grid) : Prop where
  dpos : 1 ≤ g.d
  dle : g.d ≤ 3
  dim : ∀ x ∈ g.idxs, (g.patch x).dim = g.d
  names : NamesOk g.patches
  pipe : ∀ x ∈ g.idxs, PipeFree (g.patch x).name
  orntOk : ∀ x a, ∃ o, mkOrnt g.d (g.ornt x a) = .ok o

theorem GridOk.patch_inj {g : Grid} (hg : GridOk g) {x x' : Nat × Nat × Nat} (hx : x ∈ g.idxs) (hx' : x' ∈ g.idxs)
    (h : g.patch x = g.patch x') : x = x' :=
  List.inj_on_of_nodup_map (List.Nodup.of_map _ hg.names) hx hx' h

theorem GridOk.name_inj {g : Grid} (hg : GridOk g) {x x' : Nat × Nat × Nat} (hx : x ∈ g.idxs) (hx' : x' ∈ g.idxs)
    (h : (g.patch x).name = (g.patch x').name) : x = x' :=
  hg.patch_inj hx hx' (hg.names.inj (List.mem_map_of_mem hx) (List.mem_map_of_mem hx') h)

/-- the orientation of the connection (x, +a) after the defaults of `Domain.join` -/
def Grid.orntOf (g : Grid) (x : Nat × Nat × Nat) (a : Nat) : Ornt :=
  match mkOrnt g.d (g.ornt x a) with
  | .ok o => o
  | .error _ => .none

/-- the connection of the lattice positions `x` and `y = next x a`, and what it resolves to -/
def Grid.mkConn (g : Grid) (x : Nat × Nat × Nat) (a : Nat) (y : Nat × Nat × Nat) : Conn :=
  ⟨⟨.obj (g.patch x), some a, 1⟩, ⟨.obj (g.patch y), some a, -1⟩, g.ornt x a⟩

def Grid.mkR (g : Grid) (x : Nat × Nat × Nat) (a : Nat) (y : Nat × Nat × Nat) : RConn :=
  ⟨⟨g.patch x, a, 1⟩, ⟨g.patch y, a, -1⟩, g.orntOf x a⟩

theorem mem_gridConns (g : Grid) (c : Conn) :
    c ∈ g.conns ↔ ∃ x ∈ g.idxs, ∃ a, a < g.d ∧ ∃ y, g.next x a = some y ∧ c = g.mkConn x a y := by
  simp only [Grid.conns, List.mem_flatMap, List.mem_filterMap, List.mem_range, Option.map_eq_some_iff,
    Grid.mkConn]
  exact ⟨fun ⟨x, hx, a, ha, y, hy, e⟩ => ⟨x, hx, a, ha, y, hy, e.symm⟩,
    fun ⟨x, hx, a, ha, y, hy, e⟩ => ⟨x, hx, a, ha, y, hy, e.symm⟩⟩

theorem resolve_grid {g : Grid} (hg : GridOk g) (ps : List Patch) {x y : Nat × Nat × Nat} {a : Nat}
    (hx : x ∈ g.idxs) (hy : y ∈ g.idxs) (ha : a < g.d) :
    resolve ps g.d false (g.mkConn x a y) = .ok (g.mkR x a y) := by
  obtain ⟨o, ho⟩ := hg.orntOk x a
  refine resolve_eq_ok.mpr ⟨⟨rfl, rfl⟩, ⟨rfl, rfl⟩,
    getBoundary_eq_ok.mpr ⟨a, rfl, (hg.dim x hx).symm ▸ ha, Or.inr rfl, rfl⟩,
    getBoundary_eq_ok.mpr ⟨a, rfl, (hg.dim y hy).symm ▸ ha, Or.inl rfl, rfl⟩, ?_, hg.dim x hx, hg.dim y hy, rfl⟩
  simp [Grid.mkConn, Grid.mkR, Grid.orntOf, ho]

/-- a duplicate-free selection of grid connections, in any order -/
def GridSel (g : Grid) (cs : List Conn) : Prop := cs.Nodup ∧ ∀ c ∈ cs, c ∈ g.conns

theorem headDim_grid {g : Grid} (hg : GridOk g) (h : g.patches ≠ []) : headDim g.patches = g.d := by
  unfold Grid.patches at h ⊢
  cases hi : g.idxs with
  | nil => simp [hi] at h
  | cons x xs => exact hg.dim x (by simp [hi])

theorem byIndices_grid {g : Grid} {cs : List Conn} (hs : ∀ c ∈ cs, c ∈ g.conns) : byIndices cs = false := by
  cases cs with
  | nil => rfl
  | cons c cs =>
    obtain ⟨x, _, a, _, y, _, rfl⟩ := (mem_gridConns g c).mp (hs c (by simp))
    rfl

theorem resolved_grid {g : Grid} (hg : GridOk g) {cs : List Conn} (hs : ∀ c ∈ cs, c ∈ g.conns)
    (hne : g.patches ≠ []) :
    resolveAll g.patches (headDim g.patches) (byIndices cs) cs = .ok (resolved g.patches cs) ∧
    ∃ R : Conn → RConn, resolved g.patches cs = cs.map R ∧
      ∀ c ∈ cs, ∃ x ∈ g.idxs, ∃ a, a < g.d ∧ ∃ y, g.next x a = some y ∧ y ∈ g.idxs ∧ c = g.mkConn x a y ∧
        R c = g.mkR x a y := by
  have hres : ∀ c ∈ cs, ∃ x ∈ g.idxs, ∃ a, a < g.d ∧ ∃ y, g.next x a = some y ∧ y ∈ g.idxs ∧ c = g.mkConn x a y ∧
      resolve g.patches (headDim g.patches) (byIndices cs) c = .ok (g.mkR x a y) := by
    intro c hc
    obtain ⟨x, hx, a, ha, y, hy, rfl⟩ := (mem_gridConns g c).mp (hs c hc)
    have hy' := (next_spec g x y a (by have := hg.dle; omega) hx hy).1
    rw [headDim_grid hg hne, byIndices_grid hs]
    exact ⟨x, hx, a, ha, y, hy, hy', rfl, resolve_grid hg _ hx hy' ha⟩
  have hall := (resolveAll_ok _ _ _ _ (cs.map (resolveD g.patches (headDim g.patches) (byIndices cs)))).mpr
    ⟨fun c hc => by obtain ⟨x, _, a, _, y, _, _, _, h⟩ := hres c hc; exact ⟨_, h⟩, rfl⟩
  have hr : resolved g.patches cs = cs.map (resolveD g.patches (headDim g.patches) (byIndices cs)) := by
    simp [resolved, hall]
  refine ⟨hr ▸ hall, _, hr, fun c hc => ?_⟩
  obtain ⟨x, hx, a, ha, y, hy, hy', rfl, h⟩ := hres c hc
  exact ⟨x, hx, a, ha, y, hy, hy', rfl, by simp [resolveD, h]⟩

theorem mkR_determines {g : Grid} (hg : GridOk g) {x x' y y' : Nat × Nat × Nat} {a a' : Nat}
    (hx : x ∈ g.idxs) (hx' : x' ∈ g.idxs) (hy : y ∈ g.idxs) (hy' : y' ∈ g.idxs)
    (ha : a < g.d) (ha' : a' < g.d) (hn : g.next x a = some y) (hn' : g.next x' a' = some y')
    (h : (g.mkR x a y).minus = (g.mkR x' a' y').minus ∨ (g.mkR x a y).plus = (g.mkR x' a' y').plus ∨
         (g.mkR x a y).name = (g.mkR x' a' y').name) :
    x = x' ∧ a = a' ∧ y = y' := by
  have h3 := hg.dle
  rcases h with h | h | h
  · simp only [Grid.mkR, Face.mk.injEq] at h
    cases hg.patch_inj hx hx' h.1
    cases h.2.1
    exact ⟨rfl, rfl, Option.some.inj (hn.symm.trans hn')⟩
  · simp only [Grid.mkR, Face.mk.injEq] at h
    cases hg.patch_inj hy hy' h.1
    cases h.2.1
    exact ⟨next_inj g (by omega) hx hx' hn hn', rfl, rfl⟩
  · obtain ⟨e1, e2⟩ := ifaceName_inj (hg.pipe x hx) (hg.pipe x' hx') h
    cases hg.name_inj hx hx' e1
    cases hg.name_inj hy hy' e2
    exact ⟨rfl, next_axis_unique g (by omega) (by omega) hx hn hn', rfl⟩

theorem connsOk_grid {g : Grid} (hg : GridOk g) {cs : List Conn} (hsel : GridSel g cs) (hne : g.patches ≠ []) :
    ConnsOk g.patches cs := by
  obtain ⟨_, R, hspec, hc⟩ := resolved_grid hg hsel.2 hne
  -- two different selected connections share no face and no name
  have hpw : cs.Pairwise (fun c c' => (R c).name ≠ (R c').name ∧ ∀ f ∈ (R c).sides, f ∉ (R c').sides) := by
    refine (List.Pairwise.and_mem.mp hsel.1).imp ?_
    rintro c c' ⟨hcm, hcm', hne'⟩
    obtain ⟨x, hx, a, ha, y, hy, hym, rfl, e⟩ := hc c hcm
    obtain ⟨x', hx', a', ha', y', hy', hym', rfl, e'⟩ := hc c' hcm'
    rw [e, e']
    have hdet := mkR_determines hg hx hx' hym hym' ha ha' hy hy'
    have hdiff : ¬(x = x' ∧ a = a' ∧ y = y') := by rintro ⟨rfl, rfl, rfl⟩; exact hne' rfl
    refine ⟨fun hn => hdiff (hdet (Or.inr (Or.inr hn))), ?_⟩
    intro f hf hf'
    simp only [RConn.sides, List.mem_cons, List.not_mem_nil, or_false] at hf hf'
    rcases hf with rfl | rfl <;> rcases hf' with h | h
    · exact hdiff (hdet (Or.inl h))
    · simp [Grid.mkR] at h
    · simp [Grid.mkR] at h
    · exact hdiff (hdet (Or.inr (Or.inl h)))
  rw [ConnsOk, hspec]
  refine ⟨List.nodup_flatMap.mpr ⟨?_, List.pairwise_map.mpr (hpw.imp fun h f hf hf' => h.2 f hf hf')⟩,
    List.pairwise_map.mpr (List.pairwise_map.mpr (hpw.imp fun h => h.1)), ?_⟩
  · intro r hr
    obtain ⟨c, hcm, rfl⟩ := List.mem_map.mp hr
    obtain ⟨x, _, a, _, y, _, _, _, e⟩ := hc c hcm
    rw [e]; simp [RConn.sides, Grid.mkR]
  · intro r hr
    obtain ⟨c, hcm, rfl⟩ := List.mem_map.mp hr
    obtain ⟨x, hx, a, _, y, _, hym, _, e⟩ := hc c hcm
    rw [e]
    exact ⟨List.mem_map_of_mem hx, List.mem_map_of_mem hym⟩

theorem grid_join_ok {g : Grid} (hg : GridOk g) (hlen : 2 ≤ g.patches.length) {cs : List Conn}
    (hsel : GridSel g cs) (name : String) : ∃ d, join g.patches cs name = .ok d := by
  have hne : g.patches ≠ [] := List.ne_nil_of_length_pos (by omega)
  obtain ⟨hr, _⟩ := resolved_grid hg hsel.2 hne
  have hok := connsOk_grid hg hsel hne
  have hperm := unionPatches_perm hg.names
  have hdim : ∀ p ∈ g.patches, p.dim = headDim g.patches := by
    intro p hp
    obtain ⟨x, hx, rfl⟩ := List.mem_map.mp hp
    rw [headDim_grid hg hne, hg.dim x hx]
  obtain ⟨d, hd⟩ : ∃ d, finishJoin name (unionPatches g.patches)
      (externalFaces (g.patches.flatMap Patch.boundary) ((resolved g.patches cs).flatMap RConn.sides))
      (buildIfaces (resolved g.patches cs)) = .ok d := by
    apply finishJoin_ok
    · intro x hx
      have := hperm.length_eq
      rw [hx] at this
      simp at this; omega
    · intro hall i hi
      rw [buildIfaces_eq _ hok.2.1] at hi
      obtain ⟨r, hr', rfl⟩ := List.mem_map.mp hi
      rw [List.all_eq_true] at hall
      have hp := hok.2.2 r hr'
      rw [iface_logical_of_mapped (hall _ (hperm.mem_iff.mpr hp.1)) (hall _ (hperm.mem_iff.mpr hp.2))]; rfl
  exact ⟨d, (join_eq_ok hlen).mpr ⟨hdim, hr, hd⟩⟩

/-- hygiene of the logical names of a (mapped) grid -/
structure GridOkL (g : Grid) : Prop where
  lnames : LNamesOk g.patches
  lpipe : ∀ x ∈ g.idxs, PipeFree (g.patch x).lname

theorem connsOkL_grid {g : Grid} (hg : GridOk g) (hl : GridOkL g) {cs : List Conn} (hsel : GridSel g cs)
    (hne : g.patches ≠ []) : LConnsOk g.patches cs := by
  obtain ⟨_, R, hspec, hc⟩ := resolved_grid hg hsel.2 hne
  have hd3 := hg.dle
  rw [LConnsOk, hspec, List.map_map, List.Nodup, List.pairwise_map]
  refine (List.Pairwise.and_mem.mp hsel.1).imp ?_
  rintro c c' ⟨hcm, hcm', hne'⟩ hn
  obtain ⟨x, hx, a, ha, y, hy, hym, rfl, e⟩ := hc c hcm
  obtain ⟨x', hx', a', ha', y', hy', hym', rfl, e'⟩ := hc c' hcm'
  simp only [Function.comp, e, e', Grid.mkR, RConn.lname] at hn
  obtain ⟨e1, e2⟩ := ifaceName_inj (hl.lpipe x hx) (hl.lpipe x' hx') hn
  have hlinj := List.inj_on_of_nodup_map hl.lnames.lnames
  cases hg.patch_inj hx hx' (hlinj (List.mem_map_of_mem hx) (List.mem_map_of_mem hx') e1)
  cases hg.patch_inj hym hym' (hlinj (List.mem_map_of_mem hym) (List.mem_map_of_mem hym') e2)
  cases next_axis_unique g (by omega) (by omega) hx hy hy'
  exact hne' rfl

end Sympde.Topo

/- GENERATED by harness/translate/mappings.py — do not edit.  The catalogue of analytical mappings as found in
   the current source, and per mapping x admissible dimension the theorems about its stored symbolic quantities
   (Gen/Mappings.lean):
     jac_is_derivative   the stored Jacobian is the derivative of the stored coordinate expressions, (J)ᵢⱼ = ∂Xᵢ/∂xⱼ
     metric_is_gram      the stored metric is JᵀJ
     metric_det_is_det   the stored metric determinant is the determinant of the stored metric
     inv_is_inverse      the stored inverse Jacobian is the inverse of the stored Jacobian, wherever the
                         denominators of the stored inverse are invertible (`hI`)
   in every differential ring `S` (parameters and sin/cos/… of the coordinates are arbitrary ring elements),
   hence for all parameter values and points. -/
import Mathlib.Tactic.IntervalCases
import SympdeModel.Gen.Mappings
import SympdeModel.Lemmas.Mappings
namespace Sympde.Gen.Map
open Sympde E PD Frac
variable {K : Type} [CommRing K] [Algebra ℚ K]

/-- (identifier, ldim, pdim) of every catalogue mapping x admissible dimension -/
def catalogue : List (String × Nat × Nat) := [
  ("Identity_1", 1, 1),
  ("Identity_2", 2, 2),
  ("Identity_3", 3, 3),
  ("Affine_1", 1, 1),
  ("Affine_2", 2, 2),
  ("Affine_3", 3, 3),
  ("Polar_2", 2, 2),
  ("Target_2", 2, 2),
  ("Czarny_2", 2, 2),
  ("Collela2D_2", 2, 2),
  ("Torus_3", 3, 3),
  ("TorusSurface_2", 2, 3),
  ("TwistedTargetSurface_2", 2, 3),
  ("TwistedTarget_3", 3, 3),
  ("Spherical_3", 3, 3)
]

/-- classes the real constructor refused, or whose stored quantities leave the expression fragment -/
def notTranslated : List (String × String) := []

theorem catalogue_translated : notTranslated = [] := by decide

/-- statements of the generated blocks that are kept as comments (not proved) -/
def notProved : List String := ["metric_det_is_det_Czarny_2 not proved", "inv_is_inverse_Czarny_2 not proved"]

/-! ### IdentityMapping, ldim = 1, pdim = 1 -/

theorem jac_is_derivative_Identity_1 (S : DRing K) (T : FnTable S) (i j : Nat) (hi : i < 1) (hj : j < 1) :
    den S Identity_1_J i j = S.D (Coord.ofIdx true j) (den S Identity_1_X i 0) :=
  jac_of_jacOK S T 1 1 _ _ (by decide +kernel) i j hi hj

theorem metric_is_gram_Identity_1 (S : DRing K) (i j : Nat) (hi : i < 1) (hj : j < 1) :
    den S Identity_1_G i j = DRing.sumN 1 (fun k => den S Identity_1_J k i * den S Identity_1_J k j) :=
  gram_of_gramOK S 1 1 _ _ (by decide +kernel) i j hi hj

theorem metric_det_is_det_Identity_1 (S : DRing K) :
    den S Identity_1_detG 0 0 = detK 1 (fun i j => den S Identity_1_G i j) :=
  det_of_detOK S 1 _ _ (by decide +kernel)

theorem inv_is_inverse_Identity_1 (S : DRing K) (hI : NonDeg S Identity_1_Jinv) (i j : Nat) (hi : i < 1) (hj : j < 1) :
    DRing.sumN 1 (fun k => den S Identity_1_J i k * den S Identity_1_Jinv k j) = if i = j then 1 else 0 :=
  inv_of_invOK S 1 _ _ hI (by decide +kernel) i j hi hj

/-! ### IdentityMapping, ldim = 2, pdim = 2 -/

theorem jac_is_derivative_Identity_2 (S : DRing K) (T : FnTable S) (i j : Nat) (hi : i < 2) (hj : j < 2) :
    den S Identity_2_J i j = S.D (Coord.ofIdx true j) (den S Identity_2_X i 0) :=
  jac_of_jacOK S T 2 2 _ _ (by decide +kernel) i j hi hj

theorem metric_is_gram_Identity_2 (S : DRing K) (i j : Nat) (hi : i < 2) (hj : j < 2) :
    den S Identity_2_G i j = DRing.sumN 2 (fun k => den S Identity_2_J k i * den S Identity_2_J k j) :=
  gram_of_gramOK S 2 2 _ _ (by decide +kernel) i j hi hj

theorem metric_det_is_det_Identity_2 (S : DRing K) :
    den S Identity_2_detG 0 0 = detK 2 (fun i j => den S Identity_2_G i j) :=
  det_of_detOK S 2 _ _ (by decide +kernel)

theorem inv_is_inverse_Identity_2 (S : DRing K) (hI : NonDeg S Identity_2_Jinv) (i j : Nat) (hi : i < 2) (hj : j < 2) :
    DRing.sumN 2 (fun k => den S Identity_2_J i k * den S Identity_2_Jinv k j) = if i = j then 1 else 0 :=
  inv_of_invOK S 2 _ _ hI (by decide +kernel) i j hi hj

/-! ### IdentityMapping, ldim = 3, pdim = 3 -/

theorem jac_is_derivative_Identity_3 (S : DRing K) (T : FnTable S) (i j : Nat) (hi : i < 3) (hj : j < 3) :
    den S Identity_3_J i j = S.D (Coord.ofIdx true j) (den S Identity_3_X i 0) :=
  jac_of_jacOK S T 3 3 _ _ (by decide +kernel) i j hi hj

theorem metric_is_gram_Identity_3 (S : DRing K) (i j : Nat) (hi : i < 3) (hj : j < 3) :
    den S Identity_3_G i j = DRing.sumN 3 (fun k => den S Identity_3_J k i * den S Identity_3_J k j) :=
  gram_of_gramOK S 3 3 _ _ (by decide +kernel) i j hi hj

theorem metric_det_is_det_Identity_3 (S : DRing K) :
    den S Identity_3_detG 0 0 = detK 3 (fun i j => den S Identity_3_G i j) :=
  det_of_detOK S 3 _ _ (by decide +kernel)

theorem inv_is_inverse_Identity_3 (S : DRing K) (hI : NonDeg S Identity_3_Jinv) (i j : Nat) (hi : i < 3) (hj : j < 3) :
    DRing.sumN 3 (fun k => den S Identity_3_J i k * den S Identity_3_Jinv k j) = if i = j then 1 else 0 :=
  inv_of_invOK S 3 _ _ hI (by decide +kernel) i j hi hj

/-! ### AffineMapping, ldim = 1, pdim = 1 -/

theorem jac_is_derivative_Affine_1 (S : DRing K) (T : FnTable S) (i j : Nat) (hi : i < 1) (hj : j < 1) :
    den S Affine_1_J i j = S.D (Coord.ofIdx true j) (den S Affine_1_X i 0) :=
  jac_of_jacOK S T 1 1 _ _ (by decide +kernel) i j hi hj

theorem metric_is_gram_Affine_1 (S : DRing K) (i j : Nat) (hi : i < 1) (hj : j < 1) :
    den S Affine_1_G i j = DRing.sumN 1 (fun k => den S Affine_1_J k i * den S Affine_1_J k j) :=
  gram_of_gramOK S 1 1 _ _ (by decide +kernel) i j hi hj

theorem metric_det_is_det_Affine_1 (S : DRing K) :
    den S Affine_1_detG 0 0 = detK 1 (fun i j => den S Affine_1_G i j) :=
  det_of_detOK S 1 _ _ (by decide +kernel)

theorem inv_is_inverse_Affine_1 (S : DRing K) (hI : NonDeg S Affine_1_Jinv) (i j : Nat) (hi : i < 1) (hj : j < 1) :
    DRing.sumN 1 (fun k => den S Affine_1_J i k * den S Affine_1_Jinv k j) = if i = j then 1 else 0 :=
  inv_of_invOK S 1 _ _ hI (by decide +kernel) i j hi hj

/-! ### AffineMapping, ldim = 2, pdim = 2 -/

theorem jac_is_derivative_Affine_2 (S : DRing K) (T : FnTable S) (i j : Nat) (hi : i < 2) (hj : j < 2) :
    den S Affine_2_J i j = S.D (Coord.ofIdx true j) (den S Affine_2_X i 0) :=
  jac_of_jacOK S T 2 2 _ _ (by decide +kernel) i j hi hj

theorem metric_is_gram_Affine_2 (S : DRing K) (i j : Nat) (hi : i < 2) (hj : j < 2) :
    den S Affine_2_G i j = DRing.sumN 2 (fun k => den S Affine_2_J k i * den S Affine_2_J k j) :=
  gram_of_gramOK S 2 2 _ _ (by decide +kernel) i j hi hj

theorem metric_det_is_det_Affine_2 (S : DRing K) :
    den S Affine_2_detG 0 0 = detK 2 (fun i j => den S Affine_2_G i j) :=
  det_of_detOK S 2 _ _ (by decide +kernel)

theorem inv_is_inverse_Affine_2 (S : DRing K) (hI : NonDeg S Affine_2_Jinv) (i j : Nat) (hi : i < 2) (hj : j < 2) :
    DRing.sumN 2 (fun k => den S Affine_2_J i k * den S Affine_2_Jinv k j) = if i = j then 1 else 0 :=
  inv_of_invOK S 2 _ _ hI (by decide +kernel) i j hi hj

/-! ### AffineMapping, ldim = 3, pdim = 3 -/

theorem jac_is_derivative_Affine_3 (S : DRing K) (T : FnTable S) (i j : Nat) (hi : i < 3) (hj : j < 3) :
    den S Affine_3_J i j = S.D (Coord.ofIdx true j) (den S Affine_3_X i 0) :=
  jac_of_jacOK S T 3 3 _ _ (by decide +kernel) i j hi hj

theorem metric_is_gram_Affine_3 (S : DRing K) (i j : Nat) (hi : i < 3) (hj : j < 3) :
    den S Affine_3_G i j = DRing.sumN 3 (fun k => den S Affine_3_J k i * den S Affine_3_J k j) :=
  gram_of_gramOK S 3 3 _ _ (by decide +kernel) i j hi hj

theorem metric_det_is_det_Affine_3 (S : DRing K) :
    den S Affine_3_detG 0 0 = detK 3 (fun i j => den S Affine_3_G i j) :=
  det_of_detOK S 3 _ _ (by decide +kernel)

theorem inv_is_inverse_Affine_3 (S : DRing K) (hI : NonDeg S Affine_3_Jinv) (i j : Nat) (hi : i < 3) (hj : j < 3) :
    DRing.sumN 3 (fun k => den S Affine_3_J i k * den S Affine_3_Jinv k j) = if i = j then 1 else 0 :=
  inv_of_invOK S 3 _ _ hI (by decide +kernel) i j hi hj

/-! ### PolarMapping, ldim = 2, pdim = 2 -/

theorem jac_is_derivative_Polar_2 (S : DRing K) (T : FnTable S) (i j : Nat) (hi : i < 2) (hj : j < 2) :
    den S Polar_2_J i j = S.D (Coord.ofIdx true j) (den S Polar_2_X i 0) :=
  jac_of_jacOK S T 2 2 _ _ (by decide +kernel) i j hi hj

theorem metric_is_gram_Polar_2 (S : DRing K) (i j : Nat) (hi : i < 2) (hj : j < 2) :
    den S Polar_2_G i j = DRing.sumN 2 (fun k => den S Polar_2_J k i * den S Polar_2_J k j) :=
  gram_of_gramOK S 2 2 _ _ (by decide +kernel) i j hi hj

theorem metric_det_is_det_Polar_2 (S : DRing K) :
    den S Polar_2_detG 0 0 = detK 2 (fun i j => den S Polar_2_G i j) :=
  det_of_detOK S 2 _ _ (by decide +kernel)

theorem inv_is_inverse_Polar_2 (S : DRing K) (hI : NonDeg S Polar_2_Jinv) (i j : Nat) (hi : i < 2) (hj : j < 2) :
    DRing.sumN 2 (fun k => den S Polar_2_J i k * den S Polar_2_Jinv k j) = if i = j then 1 else 0 :=
  inv_of_invOK S 2 _ _ hI (by decide +kernel) i j hi hj

/-! ### TargetMapping, ldim = 2, pdim = 2 -/

theorem jac_is_derivative_Target_2 (S : DRing K) (T : FnTable S) (i j : Nat) (hi : i < 2) (hj : j < 2) :
    den S Target_2_J i j = S.D (Coord.ofIdx true j) (den S Target_2_X i 0) :=
  jac_of_jacOK S T 2 2 _ _ (by decide +kernel) i j hi hj

theorem metric_is_gram_Target_2 (S : DRing K) (i j : Nat) (hi : i < 2) (hj : j < 2) :
    den S Target_2_G i j = DRing.sumN 2 (fun k => den S Target_2_J k i * den S Target_2_J k j) :=
  gram_of_gramOK S 2 2 _ _ (by decide +kernel) i j hi hj

theorem metric_det_is_det_Target_2 (S : DRing K) :
    den S Target_2_detG 0 0 = detK 2 (fun i j => den S Target_2_G i j) :=
  det_of_detOK S 2 _ _ (by decide +kernel)

theorem inv_is_inverse_Target_2 (S : DRing K) (hI : NonDeg S Target_2_Jinv) (i j : Nat) (hi : i < 2) (hj : j < 2) :
    DRing.sumN 2 (fun k => den S Target_2_J i k * den S Target_2_Jinv k j) = if i = j then 1 else 0 :=
  inv_of_invOK S 2 _ _ hI (by decide +kernel) i j hi hj

/-! ### CzarnyMapping, ldim = 2, pdim = 2 -/

/-- the facts about square roots (true of real positive bases) that relate the rational powers occurring in
    the stored quantities of Czarny_2; hypotheses of the theorems below -/
structure Czarny_2_Rad (S : DRing K) : Prop where
  r0 : den S (.pow Czarny_2_rad0 (.num 1 2)) 0 0 * den S (.pow Czarny_2_rad0 (.num 1 2)) 0 0 = den S Czarny_2_rad0 0 0
  r1 : den S (.pow Czarny_2_rad1 (.num 1 2)) 0 0 * den S (.pow Czarny_2_rad1 (.num 1 2)) 0 0 = den S Czarny_2_rad1 0 0
  r2 : den S (.pow Czarny_2_rad1 (.num (-1) 2)) 0 0 * (den S (.pow Czarny_2_rad1 (.num 1 2)) 0 0) ^ 1 = 1
  r3 : den S (.pow Czarny_2_rad0 (.num (-1) 2)) 0 0 * (den S (.pow Czarny_2_rad0 (.num 1 2)) 0 0) ^ 1 = 1
  r4 : den S (.pow Czarny_2_rad2 (.num 1 2)) 0 0 = (den S (.pow Czarny_2_rad0 (.num 1 2)) 0 0) ^ 1
  r5 : den S (.pow Czarny_2_rad3 (.num 1 2)) 0 0 = (2 * den S (.pow Czarny_2_rad1 (.num 1 2)) 0 0) ^ 1

theorem jac_is_derivative_Czarny_2 (S : DRing K) (T : FnTable S) (R : Czarny_2_Rad S) (hX : NonDeg S Czarny_2_X) (hJ : NonDeg S Czarny_2_J) (hd00 : NonDeg S (PD.sdiff .x1 Czarny_2_X00)) (hd01 : NonDeg S (PD.sdiff .x2 Czarny_2_X00)) (hd10 : NonDeg S (PD.sdiff .x1 Czarny_2_X10)) (hd11 : NonDeg S (PD.sdiff .x2 Czarny_2_X10)) (i j : Nat) (hi : i < 2) (hj : j < 2) :
    den S Czarny_2_J i j = S.D (Coord.ofIdx true j) (den S Czarny_2_X i 0) :=
  jac_of_jacOKσ S T _ (.cons (rsqrt_rule S Czarny_2_rad0 R.r0 R.r3 (isInv_of_mem S _ hd00 _ (by decide +kernel))) (.nil S)) 2 2 _ _ hX hJ
    (fun i j hi hj => by
      interval_cases i <;> interval_cases j
      · exact hd00
      · exact hd01
      · exact hd10
      · exact hd11)
    (by decide +kernel) i j hi hj

theorem metric_is_gram_Czarny_2 (S : DRing K) (R : Czarny_2_Rad S) (hJ : NonDeg S Czarny_2_J) (hG : NonDeg S Czarny_2_G) (i j : Nat) (hi : i < 2) (hj : j < 2) :
    den S Czarny_2_G i j = DRing.sumN 2 (fun k => den S Czarny_2_J k i * den S Czarny_2_J k j) :=
  gram_of_gramOKσ S _ (.cons (inv_rule S Czarny_2_rad0 R.r0 R.r3 (isInv_of_mem S _ hG _ (by decide +kernel))) (.nil S)) 2 2 _ _ hJ hG (by decide +kernel) i j hi hj

/- NOT PROVED (full statement; covered by the oracle only):
   theorem metric_det_is_det_Czarny_2 (S : DRing K) (R : Czarny_2_Rad S) (hG : NonDeg S Czarny_2_G) (hD : NonDeg S Czarny_2_detG) :
       den S Czarny_2_detG 0 0 = detK 2 (fun i j => den S Czarny_2_G i j) -/

/- NOT PROVED (full statement; covered by the oracle only):
   theorem inv_is_inverse_Czarny_2 (S : DRing K) (R : Czarny_2_Rad S) (hJ : NonDeg S Czarny_2_J) (hI : NonDeg S Czarny_2_Jinv)
       (i j : Nat) (hi : i < 2) (hj : j < 2) :
       DRing.sumN 2 (fun k => den S Czarny_2_J i k * den S Czarny_2_Jinv k j) = if i = j then 1 else 0 -/

/-! ### CollelaMapping2D, ldim = 2, pdim = 2 -/

theorem jac_is_derivative_Collela2D_2 (S : DRing K) (T : FnTable S) (i j : Nat) (hi : i < 2) (hj : j < 2) :
    den S Collela2D_2_J i j = S.D (Coord.ofIdx true j) (den S Collela2D_2_X i 0) :=
  jac_of_jacOK S T 2 2 _ _ (by decide +kernel) i j hi hj

theorem metric_is_gram_Collela2D_2 (S : DRing K) (i j : Nat) (hi : i < 2) (hj : j < 2) :
    den S Collela2D_2_G i j = DRing.sumN 2 (fun k => den S Collela2D_2_J k i * den S Collela2D_2_J k j) :=
  gram_of_gramOK S 2 2 _ _ (by decide +kernel) i j hi hj

theorem metric_det_is_det_Collela2D_2 (S : DRing K) :
    den S Collela2D_2_detG 0 0 = detK 2 (fun i j => den S Collela2D_2_G i j) :=
  det_of_detOK S 2 _ _ (by decide +kernel)

theorem inv_is_inverse_Collela2D_2 (S : DRing K) (hI : NonDeg S Collela2D_2_Jinv) (i j : Nat) (hi : i < 2) (hj : j < 2) :
    DRing.sumN 2 (fun k => den S Collela2D_2_J i k * den S Collela2D_2_Jinv k j) = if i = j then 1 else 0 :=
  inv_of_invOK S 2 _ _ hI (by decide +kernel) i j hi hj

/-! ### TorusMapping, ldim = 3, pdim = 3 -/

theorem jac_is_derivative_Torus_3 (S : DRing K) (T : FnTable S) (i j : Nat) (hi : i < 3) (hj : j < 3) :
    den S Torus_3_J i j = S.D (Coord.ofIdx true j) (den S Torus_3_X i 0) :=
  jac_of_jacOK S T 3 3 _ _ (by decide +kernel) i j hi hj

theorem metric_is_gram_Torus_3 (S : DRing K) (i j : Nat) (hi : i < 3) (hj : j < 3) :
    den S Torus_3_G i j = DRing.sumN 3 (fun k => den S Torus_3_J k i * den S Torus_3_J k j) :=
  gram_of_gramOK S 3 3 _ _ (by decide +kernel) i j hi hj

theorem metric_det_is_det_Torus_3 (S : DRing K) :
    den S Torus_3_detG 0 0 = detK 3 (fun i j => den S Torus_3_G i j) :=
  det_of_detOK S 3 _ _ (by decide +kernel)

theorem inv_is_inverse_Torus_3 (S : DRing K) (hI : NonDeg S Torus_3_Jinv) (i j : Nat) (hi : i < 3) (hj : j < 3) :
    DRing.sumN 3 (fun k => den S Torus_3_J i k * den S Torus_3_Jinv k j) = if i = j then 1 else 0 :=
  inv_of_invOK S 3 _ _ hI (by decide +kernel) i j hi hj

/-! ### TorusSurfaceMapping, ldim = 2, pdim = 3 -/

theorem jac_is_derivative_TorusSurface_2 (S : DRing K) (T : FnTable S) (i j : Nat) (hi : i < 3) (hj : j < 2) :
    den S TorusSurface_2_J i j = S.D (Coord.ofIdx true j) (den S TorusSurface_2_X i 0) :=
  jac_of_jacOK S T 3 2 _ _ (by decide +kernel) i j hi hj

theorem metric_is_gram_TorusSurface_2 (S : DRing K) (i j : Nat) (hi : i < 2) (hj : j < 2) :
    den S TorusSurface_2_G i j = DRing.sumN 3 (fun k => den S TorusSurface_2_J k i * den S TorusSurface_2_J k j) :=
  gram_of_gramOK S 3 2 _ _ (by decide +kernel) i j hi hj

theorem metric_det_is_det_TorusSurface_2 (S : DRing K) :
    den S TorusSurface_2_detG 0 0 = detK 2 (fun i j => den S TorusSurface_2_G i j) :=
  det_of_detOK S 2 _ _ (by decide +kernel)

/-! ### TwistedTargetSurfaceMapping, ldim = 2, pdim = 3 -/

theorem jac_is_derivative_TwistedTargetSurface_2 (S : DRing K) (T : FnTable S) (i j : Nat) (hi : i < 3) (hj : j < 2) :
    den S TwistedTargetSurface_2_J i j = S.D (Coord.ofIdx true j) (den S TwistedTargetSurface_2_X i 0) :=
  jac_of_jacOK S T 3 2 _ _ (by decide +kernel) i j hi hj

theorem metric_is_gram_TwistedTargetSurface_2 (S : DRing K) (i j : Nat) (hi : i < 2) (hj : j < 2) :
    den S TwistedTargetSurface_2_G i j = DRing.sumN 3 (fun k => den S TwistedTargetSurface_2_J k i * den S TwistedTargetSurface_2_J k j) :=
  gram_of_gramOK S 3 2 _ _ (by decide +kernel) i j hi hj

theorem metric_det_is_det_TwistedTargetSurface_2 (S : DRing K) :
    den S TwistedTargetSurface_2_detG 0 0 = detK 2 (fun i j => den S TwistedTargetSurface_2_G i j) :=
  det_of_detOK S 2 _ _ (by decide +kernel)

/-! ### TwistedTargetMapping, ldim = 3, pdim = 3 -/

theorem jac_is_derivative_TwistedTarget_3 (S : DRing K) (T : FnTable S) (i j : Nat) (hi : i < 3) (hj : j < 3) :
    den S TwistedTarget_3_J i j = S.D (Coord.ofIdx true j) (den S TwistedTarget_3_X i 0) :=
  jac_of_jacOK S T 3 3 _ _ (by decide +kernel) i j hi hj

theorem metric_is_gram_TwistedTarget_3 (S : DRing K) (i j : Nat) (hi : i < 3) (hj : j < 3) :
    den S TwistedTarget_3_G i j = DRing.sumN 3 (fun k => den S TwistedTarget_3_J k i * den S TwistedTarget_3_J k j) :=
  gram_of_gramOK S 3 3 _ _ (by decide +kernel) i j hi hj

theorem metric_det_is_det_TwistedTarget_3 (S : DRing K) :
    den S TwistedTarget_3_detG 0 0 = detK 3 (fun i j => den S TwistedTarget_3_G i j) :=
  det_of_detOK S 3 _ _ (by decide +kernel)

theorem inv_is_inverse_TwistedTarget_3 (S : DRing K) (hI : NonDeg S TwistedTarget_3_Jinv) (i j : Nat) (hi : i < 3) (hj : j < 3) :
    DRing.sumN 3 (fun k => den S TwistedTarget_3_J i k * den S TwistedTarget_3_Jinv k j) = if i = j then 1 else 0 :=
  inv_of_invOK S 3 _ _ hI (by decide +kernel) i j hi hj

/-! ### SphericalMapping, ldim = 3, pdim = 3 -/

theorem jac_is_derivative_Spherical_3 (S : DRing K) (T : FnTable S) (i j : Nat) (hi : i < 3) (hj : j < 3) :
    den S Spherical_3_J i j = S.D (Coord.ofIdx true j) (den S Spherical_3_X i 0) :=
  jac_of_jacOK S T 3 3 _ _ (by decide +kernel) i j hi hj

theorem metric_is_gram_Spherical_3 (S : DRing K) (i j : Nat) (hi : i < 3) (hj : j < 3) :
    den S Spherical_3_G i j = DRing.sumN 3 (fun k => den S Spherical_3_J k i * den S Spherical_3_J k j) :=
  gram_of_gramOK S 3 3 _ _ (by decide +kernel) i j hi hj

theorem metric_det_is_det_Spherical_3 (S : DRing K) :
    den S Spherical_3_detG 0 0 = detK 3 (fun i j => den S Spherical_3_G i j) :=
  det_of_detOK S 3 _ _ (by decide +kernel)

theorem inv_is_inverse_Spherical_3 (S : DRing K) (hI : NonDeg S Spherical_3_Jinv) (i j : Nat) (hi : i < 3) (hj : j < 3) :
    DRing.sumN 3 (fun k => den S Spherical_3_J i k * den S Spherical_3_Jinv k j) = if i = j then 1 else 0 :=
  inv_of_invOK S 3 _ _ hI (by decide +kernel) i j hi hj

end Sympde.Gen.Map

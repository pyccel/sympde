/- GENERATED by harness/translate/leaf.py — do not edit.  The index of the well-typed entries of the leaf
   table, each with the generic node it is to be compared with; every component formula is equal,
   modulo the commutative-ring axioms, to the classical component definition written out on the
   placeholder arguments (`LeafCheck.leafOK`, Lemmas/Leaf.lean), hence has the classical meaning in
   every differential ring.  A changed formula changes Gen/Leaf.lean and the comparison fails. -/
import SympdeModel.Gen.Leaf
import SympdeModel.Lemmas.Leaf
namespace Sympde.Gen
open Sympde E
variable {K : Type} [CommRing K] [Algebra ℚ K]

/-- a table entry covered by a theorem: class, signature, dimension, logical?, the generic node applied to
    placeholder arguments, the formula of the entry, the number of rows and columns of the result -/
structure LeafEntry where
  cname : String
  sigs : String
  dim : Nat
  lg : Bool
  node : E
  F : E
  ri : Nat
  rj : Nat

def leafIndex : List LeafEntry := [
  ⟨"Grad_1d", "s", 1, false, (.op1 .grad (.sf "@0" .undef)), Grad_1d_s, 1, 1⟩,
  ⟨"Grad_1d", "d", 1, false, (.op1 .grad (.sf "@0" .undef)), Grad_1d_d, 1, 1⟩,
  ⟨"Grad_1d", "v", 1, false, (.op1 .grad (.mat 1 1 [(.sf "@0_0" .undef)])), Grad_1d_v, 1, 1⟩,
  ⟨"LogicalGrad_1d", "s", 1, true, (.op1 .grad (.sf "@0" .undef)), LogicalGrad_1d_s, 1, 1⟩,
  ⟨"LogicalGrad_1d", "d", 1, true, (.op1 .grad (.sf "@0" .undef)), LogicalGrad_1d_d, 1, 1⟩,
  ⟨"LogicalGrad_1d", "v", 1, true, (.op1 .grad (.mat 1 1 [(.sf "@0_0" .undef)])), LogicalGrad_1d_v, 1, 1⟩,
  ⟨"Div_1d", "s", 1, false, (.op1 .div (.sf "@0" .undef)), Div_1d_s, 1, 1⟩,
  ⟨"Div_1d", "d", 1, false, (.op1 .div (.sf "@0" .undef)), Div_1d_d, 1, 1⟩,
  ⟨"Div_1d", "v", 1, false, (.op1 .div (.mat 1 1 [(.sf "@0_0" .undef)])), Div_1d_v, 1, 1⟩,
  ⟨"LogicalDiv_1d", "s", 1, true, (.op1 .div (.sf "@0" .undef)), LogicalDiv_1d_s, 1, 1⟩,
  ⟨"LogicalDiv_1d", "d", 1, true, (.op1 .div (.sf "@0" .undef)), LogicalDiv_1d_d, 1, 1⟩,
  ⟨"LogicalDiv_1d", "v", 1, true, (.op1 .div (.mat 1 1 [(.sf "@0_0" .undef)])), LogicalDiv_1d_v, 1, 1⟩,
  ⟨"Laplace_1d", "s", 1, false, (.op1 .laplace (.sf "@0" .undef)), Laplace_1d_s, 1, 1⟩,
  ⟨"Laplace_1d", "d", 1, false, (.op1 .laplace (.sf "@0" .undef)), Laplace_1d_d, 1, 1⟩,
  ⟨"Laplace_1d", "v", 1, false, (.op1 .laplace (.mat 1 1 [(.sf "@0_0" .undef)])), Laplace_1d_v, 1, 1⟩,
  ⟨"LogicalLaplace_1d", "s", 1, true, (.op1 .laplace (.sf "@0" .undef)), LogicalLaplace_1d_s, 1, 1⟩,
  ⟨"LogicalLaplace_1d", "d", 1, true, (.op1 .laplace (.sf "@0" .undef)), LogicalLaplace_1d_d, 1, 1⟩,
  ⟨"LogicalLaplace_1d", "v", 1, true, (.op1 .laplace (.mat 1 1 [(.sf "@0_0" .undef)])), LogicalLaplace_1d_v, 1, 1⟩,
  ⟨"Hessian_1d", "s", 1, false, (.op1 .hessian (.sf "@0" .undef)), Hessian_1d_s, 1, 1⟩,
  ⟨"Hessian_1d", "d", 1, false, (.op1 .hessian (.sf "@0" .undef)), Hessian_1d_d, 1, 1⟩,
  ⟨"LogicalHessian_1d", "s", 1, true, (.op1 .hessian (.sf "@0" .undef)), LogicalHessian_1d_s, 1, 1⟩,
  ⟨"LogicalHessian_1d", "d", 1, true, (.op1 .hessian (.sf "@0" .undef)), LogicalHessian_1d_d, 1, 1⟩,
  ⟨"Dot_1d", "ss", 1, false, (.op2 .dot (.sf "@0" .undef) (.sf "@1" .undef)), Dot_1d_ss, 1, 1⟩,
  ⟨"Dot_1d", "sd", 1, false, (.op2 .dot (.sf "@0" .undef) (.sf "@1" .undef)), Dot_1d_sd, 1, 1⟩,
  ⟨"Dot_1d", "sv", 1, false, (.op2 .dot (.sf "@0" .undef) (.mat 1 1 [(.sf "@1_0" .undef)])), Dot_1d_sv, 1, 1⟩,
  ⟨"Dot_1d", "ds", 1, false, (.op2 .dot (.sf "@0" .undef) (.sf "@1" .undef)), Dot_1d_ds, 1, 1⟩,
  ⟨"Dot_1d", "dd", 1, false, (.op2 .dot (.sf "@0" .undef) (.sf "@1" .undef)), Dot_1d_dd, 1, 1⟩,
  ⟨"Dot_1d", "dv", 1, false, (.op2 .dot (.sf "@0" .undef) (.mat 1 1 [(.sf "@1_0" .undef)])), Dot_1d_dv, 1, 1⟩,
  ⟨"Dot_1d", "vs", 1, false, (.op2 .dot (.mat 1 1 [(.sf "@0_0" .undef)]) (.sf "@1" .undef)), Dot_1d_vs, 1, 1⟩,
  ⟨"Dot_1d", "vd", 1, false, (.op2 .dot (.mat 1 1 [(.sf "@0_0" .undef)]) (.sf "@1" .undef)), Dot_1d_vd, 1, 1⟩,
  ⟨"Dot_1d", "vv", 1, false, (.op2 .dot (.mat 1 1 [(.sf "@0_0" .undef)]) (.mat 1 1 [(.sf "@1_0" .undef)])), Dot_1d_vv, 1, 1⟩,
  ⟨"Dot_1d", "vm", 1, false, (.op2 .dot (.mat 1 1 [(.sf "@0_0" .undef)]) (.mat 1 1 [(.sf "@1_0_0" .undef)])), Dot_1d_vm, 1, 1⟩,
  ⟨"Dot_1d", "mv", 1, false, (.op2 .dot (.mat 1 1 [(.sf "@0_0_0" .undef)]) (.mat 1 1 [(.sf "@1_0" .undef)])), Dot_1d_mv, 1, 1⟩,
  ⟨"Inner_1d", "ss", 1, false, (.op2 .inner (.sf "@0" .undef) (.sf "@1" .undef)), Inner_1d_ss, 1, 1⟩,
  ⟨"Inner_1d", "sd", 1, false, (.op2 .inner (.sf "@0" .undef) (.sf "@1" .undef)), Inner_1d_sd, 1, 1⟩,
  ⟨"Inner_1d", "sv", 1, false, (.op2 .inner (.sf "@0" .undef) (.mat 1 1 [(.sf "@1_0" .undef)])), Inner_1d_sv, 1, 1⟩,
  ⟨"Inner_1d", "ds", 1, false, (.op2 .inner (.sf "@0" .undef) (.sf "@1" .undef)), Inner_1d_ds, 1, 1⟩,
  ⟨"Inner_1d", "dd", 1, false, (.op2 .inner (.sf "@0" .undef) (.sf "@1" .undef)), Inner_1d_dd, 1, 1⟩,
  ⟨"Inner_1d", "dv", 1, false, (.op2 .inner (.sf "@0" .undef) (.mat 1 1 [(.sf "@1_0" .undef)])), Inner_1d_dv, 1, 1⟩,
  ⟨"Inner_1d", "vs", 1, false, (.op2 .inner (.mat 1 1 [(.sf "@0_0" .undef)]) (.sf "@1" .undef)), Inner_1d_vs, 1, 1⟩,
  ⟨"Inner_1d", "vd", 1, false, (.op2 .inner (.mat 1 1 [(.sf "@0_0" .undef)]) (.sf "@1" .undef)), Inner_1d_vd, 1, 1⟩,
  ⟨"Inner_1d", "vv", 1, false, (.op2 .inner (.mat 1 1 [(.sf "@0_0" .undef)]) (.mat 1 1 [(.sf "@1_0" .undef)])), Inner_1d_vv, 1, 1⟩,
  ⟨"Inner_1d", "mm", 1, false, (.op2 .inner (.mat 1 1 [(.sf "@0_0_0" .undef)]) (.mat 1 1 [(.sf "@1_0_0" .undef)])), Inner_1d_mm, 1, 1⟩,
  ⟨"Grad_2d", "s", 2, false, (.op1 .grad (.sf "@0" .undef)), Grad_2d_s, 2, 1⟩,
  ⟨"Grad_2d", "v", 2, false, (.op1 .grad (.mat 2 1 [(.sf "@0_0" .undef), (.sf "@0_1" .undef)])), Grad_2d_v, 2, 2⟩,
  ⟨"LogicalGrad_2d", "s", 2, true, (.op1 .grad (.sf "@0" .undef)), LogicalGrad_2d_s, 2, 1⟩,
  ⟨"LogicalGrad_2d", "v", 2, true, (.op1 .grad (.mat 2 1 [(.sf "@0_0" .undef), (.sf "@0_1" .undef)])), LogicalGrad_2d_v, 2, 2⟩,
  ⟨"Curl_2d", "v", 2, false, (.op1 .curl (.mat 2 1 [(.sf "@0_0" .undef), (.sf "@0_1" .undef)])), Curl_2d_v, 1, 1⟩,
  ⟨"LogicalCurl_2d", "v", 2, true, (.op1 .curl (.mat 2 1 [(.sf "@0_0" .undef), (.sf "@0_1" .undef)])), LogicalCurl_2d_v, 1, 1⟩,
  ⟨"Rot_2d", "s", 2, false, (.op1 .rot (.sf "@0" .undef)), Rot_2d_s, 2, 1⟩,
  ⟨"LogicalRot_2d", "s", 2, true, (.op1 .rot (.sf "@0" .undef)), LogicalRot_2d_s, 2, 1⟩,
  ⟨"Div_2d", "v", 2, false, (.op1 .div (.mat 2 1 [(.sf "@0_0" .undef), (.sf "@0_1" .undef)])), Div_2d_v, 1, 1⟩,
  ⟨"Div_2d", "m", 2, false, (.op1 .div (.mat 2 2 [(.sf "@0_0_0" .undef), (.sf "@0_0_1" .undef), (.sf "@0_1_0" .undef), (.sf "@0_1_1" .undef)])), Div_2d_m, 2, 1⟩,
  ⟨"LogicalDiv_2d", "v", 2, true, (.op1 .div (.mat 2 1 [(.sf "@0_0" .undef), (.sf "@0_1" .undef)])), LogicalDiv_2d_v, 1, 1⟩,
  ⟨"LogicalDiv_2d", "m", 2, true, (.op1 .div (.mat 2 2 [(.sf "@0_0_0" .undef), (.sf "@0_0_1" .undef), (.sf "@0_1_0" .undef), (.sf "@0_1_1" .undef)])), LogicalDiv_2d_m, 2, 1⟩,
  ⟨"Laplace_2d", "s", 2, false, (.op1 .laplace (.sf "@0" .undef)), Laplace_2d_s, 1, 1⟩,
  ⟨"Laplace_2d", "v", 2, false, (.op1 .laplace (.mat 2 1 [(.sf "@0_0" .undef), (.sf "@0_1" .undef)])), Laplace_2d_v, 2, 1⟩,
  ⟨"LogicalLaplace_2d", "s", 2, true, (.op1 .laplace (.sf "@0" .undef)), LogicalLaplace_2d_s, 1, 1⟩,
  ⟨"LogicalLaplace_2d", "v", 2, true, (.op1 .laplace (.mat 2 1 [(.sf "@0_0" .undef), (.sf "@0_1" .undef)])), LogicalLaplace_2d_v, 2, 1⟩,
  ⟨"Hessian_2d", "s", 2, false, (.op1 .hessian (.sf "@0" .undef)), Hessian_2d_s, 2, 2⟩,
  ⟨"LogicalHessian_2d", "s", 2, true, (.op1 .hessian (.sf "@0" .undef)), LogicalHessian_2d_s, 2, 2⟩,
  ⟨"Bracket_2d", "ss", 2, false, (.op2 .bracket (.sf "@0" .undef) (.sf "@1" .undef)), Bracket_2d_ss, 1, 1⟩,
  ⟨"LogicalBracket_2d", "ss", 2, true, (.op2 .bracket (.sf "@0" .undef) (.sf "@1" .undef)), LogicalBracket_2d_ss, 1, 1⟩,
  ⟨"Dot_2d", "vv", 2, false, (.op2 .dot (.mat 2 1 [(.sf "@0_0" .undef), (.sf "@0_1" .undef)]) (.mat 2 1 [(.sf "@1_0" .undef), (.sf "@1_1" .undef)])), Dot_2d_vv, 1, 1⟩,
  ⟨"Dot_2d", "vm", 2, false, (.op2 .dot (.mat 2 1 [(.sf "@0_0" .undef), (.sf "@0_1" .undef)]) (.mat 2 2 [(.sf "@1_0_0" .undef), (.sf "@1_0_1" .undef), (.sf "@1_1_0" .undef), (.sf "@1_1_1" .undef)])), Dot_2d_vm, 2, 1⟩,
  ⟨"Dot_2d", "mv", 2, false, (.op2 .dot (.mat 2 2 [(.sf "@0_0_0" .undef), (.sf "@0_0_1" .undef), (.sf "@0_1_0" .undef), (.sf "@0_1_1" .undef)]) (.mat 2 1 [(.sf "@1_0" .undef), (.sf "@1_1" .undef)])), Dot_2d_mv, 2, 1⟩,
  ⟨"Cross_2d", "vv", 2, false, (.op2 .cross (.mat 2 1 [(.sf "@0_0" .undef), (.sf "@0_1" .undef)]) (.mat 2 1 [(.sf "@1_0" .undef), (.sf "@1_1" .undef)])), Cross_2d_vv, 1, 1⟩,
  ⟨"Inner_2d", "vv", 2, false, (.op2 .inner (.mat 2 1 [(.sf "@0_0" .undef), (.sf "@0_1" .undef)]) (.mat 2 1 [(.sf "@1_0" .undef), (.sf "@1_1" .undef)])), Inner_2d_vv, 1, 1⟩,
  ⟨"Inner_2d", "mm", 2, false, (.op2 .inner (.mat 2 2 [(.sf "@0_0_0" .undef), (.sf "@0_0_1" .undef), (.sf "@0_1_0" .undef), (.sf "@0_1_1" .undef)]) (.mat 2 2 [(.sf "@1_0_0" .undef), (.sf "@1_0_1" .undef), (.sf "@1_1_0" .undef), (.sf "@1_1_1" .undef)])), Inner_2d_mm, 1, 1⟩,
  ⟨"Grad_3d", "s", 3, false, (.op1 .grad (.sf "@0" .undef)), Grad_3d_s, 3, 1⟩,
  ⟨"Grad_3d", "v", 3, false, (.op1 .grad (.mat 3 1 [(.sf "@0_0" .undef), (.sf "@0_1" .undef), (.sf "@0_2" .undef)])), Grad_3d_v, 3, 3⟩,
  ⟨"LogicalGrad_3d", "s", 3, true, (.op1 .grad (.sf "@0" .undef)), LogicalGrad_3d_s, 3, 1⟩,
  ⟨"LogicalGrad_3d", "v", 3, true, (.op1 .grad (.mat 3 1 [(.sf "@0_0" .undef), (.sf "@0_1" .undef), (.sf "@0_2" .undef)])), LogicalGrad_3d_v, 3, 3⟩,
  ⟨"Curl_3d", "v", 3, false, (.op1 .curl (.mat 3 1 [(.sf "@0_0" .undef), (.sf "@0_1" .undef), (.sf "@0_2" .undef)])), Curl_3d_v, 3, 1⟩,
  ⟨"LogicalCurl_3d", "v", 3, true, (.op1 .curl (.mat 3 1 [(.sf "@0_0" .undef), (.sf "@0_1" .undef), (.sf "@0_2" .undef)])), LogicalCurl_3d_v, 3, 1⟩,
  ⟨"Div_3d", "v", 3, false, (.op1 .div (.mat 3 1 [(.sf "@0_0" .undef), (.sf "@0_1" .undef), (.sf "@0_2" .undef)])), Div_3d_v, 1, 1⟩,
  ⟨"Div_3d", "m", 3, false, (.op1 .div (.mat 3 3 [(.sf "@0_0_0" .undef), (.sf "@0_0_1" .undef), (.sf "@0_0_2" .undef), (.sf "@0_1_0" .undef), (.sf "@0_1_1" .undef), (.sf "@0_1_2" .undef), (.sf "@0_2_0" .undef), (.sf "@0_2_1" .undef), (.sf "@0_2_2" .undef)])), Div_3d_m, 3, 1⟩,
  ⟨"LogicalDiv_3d", "v", 3, true, (.op1 .div (.mat 3 1 [(.sf "@0_0" .undef), (.sf "@0_1" .undef), (.sf "@0_2" .undef)])), LogicalDiv_3d_v, 1, 1⟩,
  ⟨"LogicalDiv_3d", "m", 3, true, (.op1 .div (.mat 3 3 [(.sf "@0_0_0" .undef), (.sf "@0_0_1" .undef), (.sf "@0_0_2" .undef), (.sf "@0_1_0" .undef), (.sf "@0_1_1" .undef), (.sf "@0_1_2" .undef), (.sf "@0_2_0" .undef), (.sf "@0_2_1" .undef), (.sf "@0_2_2" .undef)])), LogicalDiv_3d_m, 3, 1⟩,
  ⟨"Laplace_3d", "s", 3, false, (.op1 .laplace (.sf "@0" .undef)), Laplace_3d_s, 1, 1⟩,
  ⟨"Laplace_3d", "v", 3, false, (.op1 .laplace (.mat 3 1 [(.sf "@0_0" .undef), (.sf "@0_1" .undef), (.sf "@0_2" .undef)])), Laplace_3d_v, 3, 1⟩,
  ⟨"LogicalLaplace_3d", "s", 3, true, (.op1 .laplace (.sf "@0" .undef)), LogicalLaplace_3d_s, 1, 1⟩,
  ⟨"LogicalLaplace_3d", "v", 3, true, (.op1 .laplace (.mat 3 1 [(.sf "@0_0" .undef), (.sf "@0_1" .undef), (.sf "@0_2" .undef)])), LogicalLaplace_3d_v, 3, 1⟩,
  ⟨"Hessian_3d", "s", 3, false, (.op1 .hessian (.sf "@0" .undef)), Hessian_3d_s, 3, 3⟩,
  ⟨"LogicalHessian_3d", "s", 3, true, (.op1 .hessian (.sf "@0" .undef)), LogicalHessian_3d_s, 3, 3⟩,
  ⟨"Dot_3d", "vv", 3, false, (.op2 .dot (.mat 3 1 [(.sf "@0_0" .undef), (.sf "@0_1" .undef), (.sf "@0_2" .undef)]) (.mat 3 1 [(.sf "@1_0" .undef), (.sf "@1_1" .undef), (.sf "@1_2" .undef)])), Dot_3d_vv, 1, 1⟩,
  ⟨"Dot_3d", "vm", 3, false, (.op2 .dot (.mat 3 1 [(.sf "@0_0" .undef), (.sf "@0_1" .undef), (.sf "@0_2" .undef)]) (.mat 3 3 [(.sf "@1_0_0" .undef), (.sf "@1_0_1" .undef), (.sf "@1_0_2" .undef), (.sf "@1_1_0" .undef), (.sf "@1_1_1" .undef), (.sf "@1_1_2" .undef), (.sf "@1_2_0" .undef), (.sf "@1_2_1" .undef), (.sf "@1_2_2" .undef)])), Dot_3d_vm, 3, 1⟩,
  ⟨"Dot_3d", "mv", 3, false, (.op2 .dot (.mat 3 3 [(.sf "@0_0_0" .undef), (.sf "@0_0_1" .undef), (.sf "@0_0_2" .undef), (.sf "@0_1_0" .undef), (.sf "@0_1_1" .undef), (.sf "@0_1_2" .undef), (.sf "@0_2_0" .undef), (.sf "@0_2_1" .undef), (.sf "@0_2_2" .undef)]) (.mat 3 1 [(.sf "@1_0" .undef), (.sf "@1_1" .undef), (.sf "@1_2" .undef)])), Dot_3d_mv, 3, 1⟩,
  ⟨"Cross_3d", "vv", 3, false, (.op2 .cross (.mat 3 1 [(.sf "@0_0" .undef), (.sf "@0_1" .undef), (.sf "@0_2" .undef)]) (.mat 3 1 [(.sf "@1_0" .undef), (.sf "@1_1" .undef), (.sf "@1_2" .undef)])), Cross_3d_vv, 3, 1⟩,
  ⟨"Inner_3d", "vv", 3, false, (.op2 .inner (.mat 3 1 [(.sf "@0_0" .undef), (.sf "@0_1" .undef), (.sf "@0_2" .undef)]) (.mat 3 1 [(.sf "@1_0" .undef), (.sf "@1_1" .undef), (.sf "@1_2" .undef)])), Inner_3d_vv, 1, 1⟩,
  ⟨"Inner_3d", "mm", 3, false, (.op2 .inner (.mat 3 3 [(.sf "@0_0_0" .undef), (.sf "@0_0_1" .undef), (.sf "@0_0_2" .undef), (.sf "@0_1_0" .undef), (.sf "@0_1_1" .undef), (.sf "@0_1_2" .undef), (.sf "@0_2_0" .undef), (.sf "@0_2_1" .undef), (.sf "@0_2_2" .undef)]) (.mat 3 3 [(.sf "@1_0_0" .undef), (.sf "@1_0_1" .undef), (.sf "@1_0_2" .undef), (.sf "@1_1_0" .undef), (.sf "@1_1_1" .undef), (.sf "@1_1_2" .undef), (.sf "@1_2_0" .undef), (.sf "@1_2_1" .undef), (.sf "@1_2_2" .undef)])), Inner_3d_mm, 1, 1⟩
]

theorem leafIndex_ok : ∀ r ∈ leafIndex, LeafCheck.leafOK r.dim r.lg r.node r.F r.ri r.rj = true := by
  decide +kernel

/-- every indexed formula equals the classical definition of its node, in every differential ring -/
theorem leaf_index (S : DRing K) : ∀ r ∈ leafIndex, ∀ i j, i < r.ri → j < r.rj →
    den S r.F i j = denG S r.dim r.lg r.node i j := by
  intro r hr
  exact LeafCheck.leafOK_sound S r.dim r.lg r.node r.F r.ri r.rj (leafIndex_ok r hr)

/-- entries of the supported fragment for which the current code returns no formula (raises, or the
    class does not exist): must be empty ("on the supported operator fragment lowering does not fail") -/
def missingEntries : List (String × String) := []

theorem fragment_total : missingEntries = [] := by decide

end Sympde.Gen
